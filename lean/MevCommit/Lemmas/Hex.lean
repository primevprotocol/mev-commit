import MevCommit.Basic
/- lowercase hex: decoding inverts encoding -/
namespace MevCommit

theorem hexVal_hexDigit : ∀ n : Fin 16, hexVal (hexDigit n) = some n.val := by decide

theorem hexDecode_hexEncode (bs : Bytes) : hexDecode (hexEncode bs) = some bs := by
  induction bs with
  | nil => rfl
  | cons x xs ih =>
    have hi := hexVal_hexDigit ⟨x.toNat / 16, by have := x.toNat_lt; omega⟩
    have lo := hexVal_hexDigit ⟨x.toNat % 16, Nat.mod_lt _ (by decide)⟩
    show hexDecode (hexDigit (x.toNat / 16) :: hexDigit (x.toNat % 16) :: hexEncode xs) = _
    simp only [hexDecode, hi, lo, ih, Nat.div_add_mod', UInt8.ofNat_toNat]

end MevCommit
