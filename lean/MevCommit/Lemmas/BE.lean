import MevCommit.Basic
/- big-endian words (`toBE`, `fromBE`, `natBytes`) and the 256-bit word of an integer (`u256`, `be32`) -/
namespace MevCommit

theorem toNat_ofNat_mod256 (n : Nat) : (UInt8.ofNat (n % 256)).toNat = n % 256 := by
  rw [UInt8.toNat_ofNat']
  exact Nat.mod_mod n 256

@[simp] theorem toBE_length (k n : Nat) : (toBE k n).length = k := by
  induction k generalizing n with
  | zero => simp [toBE]
  | succ k ih => simp [toBE, ih]

theorem fromBE_append_single (bs : Bytes) (b : UInt8) :
    fromBE (bs ++ [b]) = fromBE bs * 256 + b.toNat := by
  simp [fromBE, List.foldl_append]

theorem fromBE_toBE (k n : Nat) : fromBE (toBE k n) = n % 256 ^ k := by
  induction k generalizing n with
  | zero => simp [toBE, fromBE, Nat.mod_one]
  | succ k ih =>
    rw [toBE, fromBE_append_single, ih, toNat_ofNat_mod256, @Nat.pow_succ 256 k, Nat.mul_comm (256 ^ k),
      Nat.mod_mul, Nat.mul_comm, Nat.add_comm]

theorem fromBE_toBE_of_lt (k n : Nat) (h : n < 256 ^ k) : fromBE (toBE k n) = n := by
  rw [fromBE_toBE, Nat.mod_eq_of_lt h]

theorem toBE_injective (k a b : Nat) (ha : a < 256 ^ k) (hb : b < 256 ^ k)
    (h : toBE k a = toBE k b) : a = b := by
  have := congrArg fromBE h
  rwa [fromBE_toBE_of_lt k a ha, fromBE_toBE_of_lt k b hb] at this

theorem pow256_32 : (256 : Nat) ^ 32 = 2 ^ 256 := by
  have : (256 : Nat) = 2 ^ 8 := by decide
  rw [this, ← Nat.pow_mul]

theorem fromBE_toBE32 {n : Nat} (h : n < 2 ^ 256) : fromBE (toBE 32 n) = n :=
  fromBE_toBE_of_lt 32 n (pow256_32 ▸ h)

theorem fromBE_natBytes (n : Nat) : fromBE (natBytes n) = n := by
  fun_induction natBytes n with
  | case1 => rfl
  | case2 n h ih =>
    rw [fromBE_append_single, ih, toNat_ofNat_mod256]
    exact Nat.div_add_mod' n 256

theorem natBytes_length_le (n k : Nat) (h : n < 256 ^ k) : (natBytes n).length ≤ k := by
  induction k generalizing n with
  | zero =>
    rw [Nat.lt_one_iff.mp h, natBytes]
    exact Nat.le_refl 0
  | succ k ih =>
    rw [natBytes]
    split
    · exact Nat.zero_le _
    · rw [List.length_append]
      exact Nat.succ_le_succ (ih _ ((Nat.div_lt_iff_lt_mul (by decide)).mpr h))

theorem fromBE_zeros_append (k : Nat) (bs : Bytes) : fromBE (List.replicate k 0 ++ bs) = fromBE bs := by
  induction k with
  | zero => rfl
  -- a leading zero byte leaves the accumulator of the fold at 0, so the step is by computation
  | succ k ih => exact ih

theorem be32_length (x : Int) : (be32 x).length = 32 := toBE_length 32 _

theorem u256_cast (x : Int) : (u256 x : Int) = x % 2 ^ 256 :=
  Int.toNat_of_nonneg (Int.emod_nonneg x (by decide))

theorem u256_lt (x : Int) : u256 x < 2 ^ 256 := by
  unfold u256; omega

theorem u256_of_nonneg {x : Int} (h0 : 0 ≤ x) (h : x < 2 ^ 256) : u256 x = x.toNat := by
  rw [u256, Int.emod_eq_of_lt h0 h]

theorem u256_ofNat {n : Nat} (h : n < 2 ^ 256) : u256 (Int.ofNat n) = n :=
  u256_of_nonneg (Int.natCast_nonneg n) (show (n : Int) < 2 ^ 256 by omega)

theorem be32_eq_iff (x y : Int) : be32 x = be32 y ↔ x % 2 ^ 256 = y % 2 ^ 256 := by
  constructor
  · intro h
    have hu := toBE_injective 32 _ _ (pow256_32 ▸ u256_lt x) (pow256_32 ▸ u256_lt y) h
    rw [← u256_cast, ← u256_cast, hu]
  · intro h
    rw [be32, be32, u256, u256, h]

end MevCommit
