import MevCommit.Model.PeerRegistry
import MevCommit.Spec.C14
/-
C14 — property theorems about the peer registry, for every sequence (hence every
interleaving of the atomic registry operations) of admissions, connection closures (tracked
or not), lookups, stream registrations and removals.

Hypothesis on admissions (discharged by the handshake, property C04): the address recorded
for a peer id is a fixed injective function of the peer id.

Idea: the four concrete maps are the projections of ONE abstract record map (`C14_R`), and the
concrete invariant `C14_Inv` says exactly that this record map exists and is well formed
(`C14_Sim`; `C14_inv_of_sim`, `C14_sim_of_inv`).  So each operation is examined once, against the
abstract step (`C14_sim_step`): an abstract step rewrites one record, and a lemma per map says how
that shows in the projection.
-/
open MevCommit MevCommit.PeerRegistry MevCommit.Spec.C14

structure C14_Inv (addrOf : Nat → Nat) (s : St) : Prop where
  ov_un : ∀ pid p, s.overlays pid = some p → s.underlays p.addr = some pid ∧ p.addr = addrOf pid
  un_ov : ∀ a pid, s.underlays a = some pid → ∃ p, s.overlays pid = some p ∧ p.addr = a
  conn_ov : ∀ pid cs, s.conns pid = some cs → cs ≠ [] ∧ ∃ p, s.overlays pid = some p
  ov_conn : ∀ pid p, s.overlays pid = some p → ∃ cs, s.conns pid = some cs
  str_ov : ∀ pid, (∃ l, s.streams pid = some l) ↔ (∃ p, s.overlays pid = some p)
  noPanic : s.panicked = false

def C14_WF (addrOf : Nat → Nat) : Op → Prop
  | .addPeer _ pid peer => peer.addr = addrOf pid
  | _ => True

/-- coupling: the four concrete maps are the projections of the abstract record map -/
structure C14_R (s : St) (a : A) : Prop where
  ov : ∀ pid, s.overlays pid = (a.reg pid).map (·.peer)
  cn : ∀ pid, s.conns pid = (a.reg pid).map (·.conns)
  st : ∀ pid, s.streams pid = (a.reg pid).map (·.streams)
  un : ∀ ad pid, s.underlays ad = some pid ↔ ∃ r, a.reg pid = some r ∧ r.peer.addr = ad
  ca : s.cancelled = a.cancelled
  no : s.notified = a.notified

theorem C14_insertC_ne_nil (l : List Nat) (c : Nat) : insertC l c ≠ [] := by
  unfold insertC
  split
  next h => rintro rfl; cases h
  next => exact List.cons_ne_nil c l

theorem C14_upd_apply {α} (f : Nat → Option α) (k : Nat) (v : Option α) (i : Nat) :
    upd f k v i = if i = k then v else f i := rfl

theorem C14_upd_same {α} (f : Nat → Option α) (k : Nat) (v : Option α) : upd f k v k = v :=
  if_pos rfl

theorem C14_proj_upd {α β} (g : α → β) {f' : Nat → Option β} {f : Nat → Option α}
    (h : ∀ i, f' i = (f i).map g) {k : Nat} {v : Option α} {w : Option β} (hv : w = v.map g) :
    ∀ i, upd f' k w i = (upd f k v i).map g := by
  intro i
  rw [C14_upd_apply, C14_upd_apply]
  split
  · exact hv
  · exact h i

theorem C14_proj_keep {α β} (g : α → β) {f' : Nat → Option β} {f : Nat → Option α}
    (h : ∀ i, f' i = (f i).map g) {k : Nat} {r r' : α} (hr : f k = some r) (hg : g r' = g r) :
    ∀ i, f' i = (upd f k (some r') i).map g := by
  intro i
  rw [C14_upd_apply, h i]
  split
  next hi => rw [hi, hr, Option.map_some, Option.map_some, hg]
  next => rfl

/-- `u` (address → peer id) is the inverse of `pid ↦ address of the record of pid` -/
def C14_Inverse (u : Nat → Option Nat) (reg : Nat → Option Rec) : Prop :=
  ∀ ad pid, u ad = some pid ↔ ∃ r, reg pid = some r ∧ r.peer.addr = ad

theorem C14_inverse_modify {u reg pid r r'} (h : C14_Inverse u reg) (hr : reg pid = some r)
    (hp : r'.peer = r.peer) : C14_Inverse u (upd reg pid (some r')) := by
  intro ad i
  rw [h ad i, C14_upd_apply]
  split
  next hi =>
    rw [hi, hr]
    simp only [Option.some.injEq, exists_eq_left', hp]
  next => rfl

/-- updating `u` at `adr` and `reg` at `pid` touches row `adr` and column `pid` of the relation only -/
theorem C14_inverse_upd {u reg adr pid w v} (h : C14_Inverse u reg)
    (hcell : w = some pid ↔ ∃ r, v = some r ∧ r.peer.addr = adr)
    (hcol : ∀ ad, ad ≠ adr → (u ad = some pid ↔ ∃ r, v = some r ∧ r.peer.addr = ad))
    (hrow : ∀ i, i ≠ pid → (w = some i ↔ ∃ r, reg i = some r ∧ r.peer.addr = adr)) :
    C14_Inverse (upd u adr w) (upd reg pid v) := by
  intro ad i
  rw [C14_upd_apply, C14_upd_apply]
  by_cases hi : i = pid
  · subst hi
    rw [if_pos rfl]
    by_cases ha : ad = adr
    · subst ha; rw [if_pos rfl]; exact hcell
    · rw [if_neg ha]; exact hcol ad ha
  · rw [if_neg hi]
    by_cases ha : ad = adr
    · subst ha; rw [if_pos rfl]; exact hrow i hi
    · rw [if_neg ha]; exact h ad i

theorem C14_inverse_insert {u reg pid} (r : Rec) (h : C14_Inverse u reg) (hr : reg pid = none)
    (hu : u r.peer.addr = none) : C14_Inverse (upd u r.peer.addr (some pid)) (upd reg pid (some r)) :=
  C14_inverse_upd h (by simp) (fun ad ha => by rw [h, hr]; simp [Ne.symm ha])
    (fun i hi => by rw [← h, hu]; simp [Ne.symm hi])

/-- row and column held each other only; no injectivity is needed, `u` being a function -/
theorem C14_inverse_delete {u reg pid r} (h : C14_Inverse u reg) (hr : reg pid = some r) :
    C14_Inverse (upd u r.peer.addr none) (upd reg pid none) :=
  C14_inverse_upd h (by simp) (fun ad ha => by rw [h, hr]; simp [Ne.symm ha])
    (fun i hi => by rw [← h, (h _ _).mpr ⟨r, hr, rfl⟩]; simp [Ne.symm hi])

/-- every record has an open connection and carries the address proven for its peer id -/
def C14_AInv (addrOf : Nat → Nat) (reg : Nat → Option Rec) : Prop :=
  ∀ pid r, reg pid = some r → r.conns ≠ [] ∧ r.peer.addr = addrOf pid

theorem C14_AInv_upd {addrOf reg} (h : C14_AInv addrOf reg) (pid : Nat) (r : Rec)
    (hc : r.conns ≠ []) (ha : r.peer.addr = addrOf pid) : C14_AInv addrOf (upd reg pid (some r)) := by
  intro i r'
  rw [C14_upd_apply]
  split
  next hi => rintro ⟨⟩; exact ⟨hc, hi ▸ ha⟩
  next => exact h i r'

theorem C14_AInv_del {addrOf reg} (h : C14_AInv addrOf reg) (pid : Nat) :
    C14_AInv addrOf (upd reg pid none) := by
  intro i r
  rw [C14_upd_apply]
  split
  · nofun
  · exact h i r

structure C14_Sim (addrOf : Nat → Nat) (s : St) (a : A) : Prop where
  R : C14_R s a
  wf : C14_AInv addrOf a.reg
  noPanic : s.panicked = false

theorem C14_sim_init (addrOf : Nat → Nat) : C14_Sim addrOf init A0 :=
  { R := { ov := fun _ => rfl, cn := fun _ => rfl, st := fun _ => rfl, un := fun _ _ => ⟨nofun, nofun⟩, ca := rfl, no := rfl }
    wf := nofun
    noPanic := rfl }

theorem C14_inv_of_sim {addrOf s a} (h : C14_Sim addrOf s a) : C14_Inv addrOf s where
  ov_un pid p hp := by
    rw [h.R.ov, Option.map_eq_some_iff] at hp
    obtain ⟨r, hr, rfl⟩ := hp
    exact ⟨(h.R.un _ _).mpr ⟨r, hr, rfl⟩, (h.wf pid r hr).2⟩
  un_ov ad pid hu := by
    obtain ⟨r, hr, hra⟩ := (h.R.un _ _).mp hu
    exact ⟨r.peer, by rw [h.R.ov, hr]; rfl, hra⟩
  conn_ov pid cs hc := by
    rw [h.R.cn, Option.map_eq_some_iff] at hc
    obtain ⟨r, hr, rfl⟩ := hc
    exact ⟨(h.wf pid r hr).1, r.peer, by rw [h.R.ov, hr]; rfl⟩
  ov_conn pid p hp := by
    rw [h.R.ov, Option.map_eq_some_iff] at hp
    obtain ⟨r, hr, _⟩ := hp
    exact ⟨r.conns, by rw [h.R.cn, hr]; rfl⟩
  str_ov pid := by
    rw [h.R.st, h.R.ov]
    cases a.reg pid <;> simp
  noPanic := h.noPanic

/-- two options that are present together: one is the other with its own value put in -/
theorem C14_eq_map_getD {α β} {x : Option β} {o : Option α} (d : β)
    (h : (∃ b, x = some b) ↔ ∃ a, o = some a) : x = o.map fun _ => x.getD d := by
  cases x with
  | some b => obtain ⟨a, rfl⟩ := h.mp ⟨b, rfl⟩; rfl
  | none =>
    cases o with
    | none => rfl
    | some a => obtain ⟨b, hb⟩ := h.mpr ⟨a, rfl⟩; cases hb

/-- the record of `pid` is read off the three maps, which `C14_Inv` gives the same domain -/
theorem C14_sim_of_inv {addrOf s} (h : C14_Inv addrOf s) : ∃ a, C14_Sim addrOf s a := by
  refine ⟨⟨fun pid => (s.overlays pid).map fun p => ⟨p, (s.conns pid).getD [], (s.streams pid).getD []⟩,
    s.cancelled, s.notified⟩, ⟨?_, ?_, ?_, ?_, rfl, rfl⟩, ?_, h.noPanic⟩
  · intro pid
    dsimp only
    cases s.overlays pid <;> rfl
  · intro pid
    simp only [Option.map_map]
    exact C14_eq_map_getD [] ⟨fun ⟨cs, hc⟩ => (h.conn_ov pid cs hc).2, fun ⟨p, hp⟩ => h.ov_conn pid p hp⟩
  · intro pid
    simp only [Option.map_map]
    exact C14_eq_map_getD [] (h.str_ov pid)
  · intro ad pid
    dsimp only
    constructor
    · intro hu
      obtain ⟨p, hp, hpa⟩ := h.un_ov ad pid hu
      rw [hp]
      exact ⟨_, rfl, hpa⟩
    · rintro ⟨r, hr, rfl⟩
      rw [Option.map_eq_some_iff] at hr
      obtain ⟨p, hp, rfl⟩ := hr
      exact (h.ov_un pid p hp).1
  · intro pid r hr
    dsimp only at hr
    rw [Option.map_eq_some_iff] at hr
    obtain ⟨p, hp, rfl⟩ := hr
    obtain ⟨cs, hc⟩ := h.ov_conn pid p hp
    rw [hc]
    exact ⟨(h.conn_ov pid cs hc).1, (h.ov_un pid p hp).2⟩

theorem C14_sim_set_streams {addrOf s a pid r} (h : C14_Sim addrOf s a) (hr : a.reg pid = some r)
    (l : List Nat) {ca ca'} (hca : ca = ca') :
    C14_Sim addrOf { s with streams := upd s.streams pid (some l), cancelled := ca }
      { a with reg := upd a.reg pid (some { r with streams := l }), cancelled := ca' } :=
  { R := { ov := C14_proj_keep _ h.R.ov hr rfl, cn := C14_proj_keep _ h.R.cn hr rfl, st := C14_proj_upd _ h.R.st rfl,
           un := C14_inverse_modify h.R.un hr rfl, ca := hca, no := h.R.no }
    wf := C14_AInv_upd h.wf pid _ (h.wf pid r hr).1 (h.wf pid r hr).2
    noPanic := h.noPanic }

theorem C14_sim_set_conns {addrOf s a pid r} (h : C14_Sim addrOf s a) (hr : a.reg pid = some r)
    (cs : List Nat) (hcs : cs ≠ []) :
    C14_Sim addrOf { s with conns := upd s.conns pid (some cs) }
      { a with reg := upd a.reg pid (some { r with conns := cs }) } :=
  { R := { ov := C14_proj_keep _ h.R.ov hr rfl, cn := C14_proj_upd _ h.R.cn rfl, st := C14_proj_keep _ h.R.st hr rfl,
           un := C14_inverse_modify h.R.un hr rfl, ca := h.R.ca, no := h.R.no }
    wf := C14_AInv_upd h.wf pid _ hcs (h.wf pid r hr).2
    noPanic := h.noPanic }

/-- **Refinement step**: a concrete step from the projection of a well-formed abstract state is
matched by the abstract step, which stays well formed; the unguarded dereference is not reached. -/
theorem C14_sim_step (addrOf : Nat → Nat) (hinj : ∀ x y, addrOf x = addrOf y → x = y)
    (s : St) (a : A) (op : Op) (hwf : C14_WF addrOf op) (h : C14_Sim addrOf s a) :
    C14_Sim addrOf (step s op).1 (astep a op) := by
  have hR := h.R
  cases op with
  | lookup pid => exact h
  | lookupAddr x => exact h
  | addStream pid st =>
    dsimp only [step, astep]
    rw [hR.st pid]
    cases hr : a.reg pid with
    | none => exact h
    | some r => exact C14_sim_set_streams h hr _ hR.ca
  | removeStream pid st =>
    dsimp only [step, astep]
    rw [hR.st pid]
    cases hr : a.reg pid with
    | none => exact h
    | some r =>
      dsimp only [Option.map_some]
      split
      · exact C14_sim_set_streams h hr _ (congrArg (· ++ [st]) hR.ca)
      · exact h
  | addPeer c pid peer =>
    have hwf : peer.addr = addrOf pid := hwf
    cases hu : s.underlays peer.addr with
    | some pid' =>
      -- a known address belongs, by injectivity, to pid itself
      obtain ⟨r, hr, hra⟩ := (hR.un _ _).mp hu
      have hpid : pid' = pid := hinj _ _ (by rw [← (h.wf pid' r hr).2, hra, hwf])
      subst hpid
      dsimp only [step, astep]
      rw [hu, hR.cn pid', hr]
      exact C14_sim_set_conns h hr _ (C14_insertC_ne_nil _ _)
    | none =>
      -- an unknown address: pid is not registered, or its own address would be known
      have hr : a.reg pid = none := by
        cases hr : a.reg pid with
        | none => rfl
        | some r =>
          have := (hR.un peer.addr pid).mpr ⟨r, hr, by rw [(h.wf pid r hr).2, hwf]⟩
          rw [hu] at this; cases this
      dsimp only [step, astep]
      rw [hu, hR.cn pid, hr]
      exact {
        R := { ov := C14_proj_upd _ hR.ov rfl, cn := C14_proj_upd _ hR.cn rfl, st := C14_proj_upd _ hR.st rfl,
               un := C14_inverse_insert ⟨peer, [c], []⟩ hR.un hr hu, ca := hR.ca, no := hR.no }
        wf := C14_AInv_upd h.wf pid _ (List.cons_ne_nil _ _) hwf
        noPanic := h.noPanic }
  | disconnected c pid =>
    dsimp only [step, astep]
    rw [hR.cn pid, hR.ov pid, hR.st pid]
    cases hr : a.reg pid with
    | none => exact h
    | some r =>
      dsimp only [Option.map_some, Option.getD_some]
      split
      next hrem => exact C14_sim_set_conns h hr _ hrem
      next =>
        exact {
          R := { ov := C14_proj_upd _ hR.ov rfl, cn := C14_proj_upd _ hR.cn rfl, st := C14_proj_upd _ hR.st rfl,
                 un := C14_inverse_delete hR.un hr, ca := congrArg (· ++ r.streams) hR.ca,
                 no := congrArg (· ++ [r.peer]) hR.no }
          wf := C14_AInv_del h.wf pid
          noPanic := h.noPanic }

theorem C14_sim_final (addrOf : Nat → Nat) (hinj : ∀ x y, addrOf x = addrOf y → x = y)
    (ops : List Op) (hwf : ∀ op ∈ ops, C14_WF addrOf op) (s : St) (a : A) (h : C14_Sim addrOf s a) :
    C14_Sim addrOf (final s ops) (afinal a ops) := by
  induction ops generalizing s a with
  | nil => exact h
  | cons op ops ih =>
    exact ih (fun o ho => hwf o (List.mem_cons_of_mem _ ho)) _ _
      (C14_sim_step addrOf hinj s a op (hwf op List.mem_cons_self) h)

/-- **The invariant is preserved by every operation.** -/
theorem C14_step_inv (addrOf : Nat → Nat) (hinj : ∀ a b, addrOf a = addrOf b → a = b)
    (s : St) (op : Op) (hwf : C14_WF addrOf op) (h : C14_Inv addrOf s) :
    C14_Inv addrOf (step s op).1 := by
  obtain ⟨a, ha⟩ := C14_sim_of_inv h
  exact C14_inv_of_sim (C14_sim_step addrOf hinj s a op hwf ha)

theorem C14_reachable_inv (addrOf : Nat → Nat) (hinj : ∀ a b, addrOf a = addrOf b → a = b)
    (ops : List Op) (hwf : ∀ op ∈ ops, C14_WF addrOf op) : C14_Inv addrOf (final init ops) :=
  C14_inv_of_sim (C14_sim_final addrOf hinj ops hwf init A0 (C14_sim_init addrOf))

/-- **No crash**: the unguarded dereference in `Disconnected` is unreachable. -/
theorem C14_never_panics (addrOf : Nat → Nat) (hinj : ∀ a b, addrOf a = addrOf b → a = b)
    (ops : List Op) (hwf : ∀ op ∈ ops, C14_WF addrOf op) :
    (final init ops).panicked = false :=
  (C14_reachable_inv addrOf hinj ops hwf).noPanic

/-- **The two maps agree** in every reachable state: looking a peer up by id and by address are
inverse to each other. -/
theorem C14_maps_agree (addrOf : Nat → Nat) (hinj : ∀ a b, addrOf a = addrOf b → a = b)
    (ops : List Op) (hwf : ∀ op ∈ ops, C14_WF addrOf op) (pid : Nat) (p : Peer) :
    (final init ops).overlays pid = some p ↔
      ((final init ops).underlays p.addr = some pid ∧ ∃ q, (final init ops).overlays pid = some q ∧ q = p) :=
  ⟨fun h => ⟨((C14_reachable_inv addrOf hinj ops hwf).ov_un pid p h).1, p, h, rfl⟩,
    fun ⟨_, _, hq, hqp⟩ => hqp ▸ hq⟩

/-- **Registered exactly while a tracked connection is open.** -/
theorem C14_registered_iff_tracked (addrOf : Nat → Nat) (hinj : ∀ a b, addrOf a = addrOf b → a = b)
    (ops : List Op) (hwf : ∀ op ∈ ops, C14_WF addrOf op) (pid : Nat) :
    (∃ p, (final init ops).overlays pid = some p) ↔
      (∃ cs, (final init ops).conns pid = some cs ∧ cs ≠ []) := by
  have hI := C14_reachable_inv addrOf hinj ops hwf
  constructor
  · rintro ⟨p, hp⟩
    obtain ⟨cs, hcs⟩ := hI.ov_conn pid p hp
    exact ⟨cs, hcs, (hI.conn_ov pid cs hcs).1⟩
  · rintro ⟨cs, hcs, _⟩; exact (hI.conn_ov pid cs hcs).2

/-- **Closing the last tracked connection**: the peer is removed from both maps, every
recorded handler context is cancelled, and exactly one notification (for that peer) is emitted. -/
theorem C14_last_close (addrOf : Nat → Nat) (s : St) (h : C14_Inv addrOf s) (c pid : Nat) (cs : List Nat)
    (hc : s.conns pid = some cs) (hlast : cs.filter (· ≠ c) = []) :
    ∃ info, s.overlays pid = some info ∧
      let s' := (step s (.disconnected c pid)).1
      s'.overlays pid = none ∧ s'.underlays info.addr = none ∧ s'.conns pid = none ∧ s'.streams pid = none ∧
      s'.notified = s.notified ++ [info] ∧
      s'.cancelled = s.cancelled ++ (s.streams pid).getD [] := by
  obtain ⟨_, info, hinfo⟩ := h.conn_ov pid cs hc
  refine ⟨info, hinfo, ?_⟩
  simp only [step, hc, if_neg (not_not_intro hlast), hinfo, C14_upd_same, and_self]

/-- **Untracked closures change nothing** (peer without tracked connections, or a connection
that is not the peer's last tracked one and not tracked at all). -/
theorem C14_untracked_close (s : St) (c pid : Nat) (h : s.conns pid = none) :
    (step s (.disconnected c pid)).1 = s := by
  simp [step, h]

theorem C14_other_conn_close (s : St) (c pid : Nat) (cs : List Nat) (hc : s.conns pid = some cs)
    (hnot : c ∉ cs) (hne : cs ≠ []) :
    let s' := (step s (.disconnected c pid)).1
    s'.overlays = s.overlays ∧ s'.underlays = s.underlays ∧ s'.notified = s.notified ∧
      s'.cancelled = s.cancelled ∧ s'.streams = s.streams := by
  have hf : cs.filter (· ≠ c) = cs :=
    List.filter_eq_self.mpr fun x hx => decide_eq_true fun hxc => hnot (hxc ▸ hx)
  simp only [step, hc, hf, if_pos hne, and_self]

/-- non-vacuity: two connections of one peer, a handler stream, closure of both -/
example : (run init [.addPeer 1 7 ⟨7, 2⟩, .addPeer 2 7 ⟨7, 2⟩, .lookup 7, .addStream 7 50, .disconnected 1 7,
    .lookup 7, .disconnected 9 7, .disconnected 2 7, .lookup 7, .lookupAddr 7]) =
    [.exists_ false, .exists_ true, .peer (some ⟨7, 2⟩), .none, .none, .peer (some ⟨7, 2⟩), .none, .none,
     .peer none, .pid none] := by decide

/-- **Refinement**: after any well-formed operation sequence the concrete registry is the
projection of the abstract one-map specification — same lookups by id and by address, same
cancelled contexts, same notifications. -/
theorem C14_refines (addrOf : Nat → Nat) (hinj : ∀ x y, addrOf x = addrOf y → x = y)
    (ops : List Op) (hwf : ∀ op ∈ ops, C14_WF addrOf op) :
    C14_R (final init ops) (afinal A0 ops) :=
  (C14_sim_final addrOf hinj ops hwf init A0 (C14_sim_init addrOf)).R
