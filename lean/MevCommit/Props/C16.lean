import MevCommit.Model.Semver
import MevCommit.Spec.C16
import MevCommit.Lemmas.Decimal
import MevCommit.Lemmas.Split
import MevCommit.Extracted
/-
C16 — property theorems.  Model: `Semver.matchProto` (transcription of
matchProtocolIDWithSemver); spec: `Spec.C16.rule`.
-/
open MevCommit MevCommit.Semver

/-- what the node does with a decision: route the stream or not -/
def C16_matched : Decision → Bool
  | .decided b => b
  | _ => false

theorem C16_parseComponent_eq_some (a : Bytes) (x : Nat) :
    parseComponent a = some x ↔ x < 2^64 ∧ parseDec a = some x := by
  unfold parseComponent
  cases parseDec a with
  | none => simp
  | some n =>
    simp only [Option.ite_none_right_eq_some, Option.some.injEq]
    constructor <;> rintro ⟨h, rfl⟩ <;> exact ⟨h, rfl⟩

theorem C16_parseStrict_showVersion (v : Version)
    (h : v.major < 2^64 ∧ v.minor < 2^64 ∧ v.patch < 2^64) : parseStrict (showVersion v) = some v := by
  have hdot (n : Nat) : (46 : UInt8) ∉ showDec n := not_mem_showDec n 46 (by decide)
  have hcomp (n : Nat) (hn : n < 2^64) : parseComponent (showDec n) = some n :=
    (C16_parseComponent_eq_some _ n).mpr ⟨hn, parseDec_showDec n⟩
  unfold parseStrict showVersion
  rw [splitOn_append_sep 46 _ _ (hdot _), splitOn_append_sep 46 _ _ (hdot _), splitOn_no_sep 46 _ (hdot _)]
  simp only [hcomp _ h.1, hcomp _ h.2.1, hcomp _ h.2.2]

theorem C16_slash_not_mem_showVersion (v : Version) : (47 : UInt8) ∉ showVersion v := by
  have hslash (n : Nat) : (47 : UInt8) ∉ showDec n := not_mem_showDec n 47 (by decide)
  simp [showVersion, hslash]

theorem C16_splitOn_protoId (name version : Bytes) (hn : (47 : UInt8) ∉ name)
    (hv : (47 : UInt8) ∉ version) : splitOn 47 (protoId name version) = [[], name, version] := by
  rw [protoId, splitOn, if_pos rfl, splitOn_append_sep 47 _ _ hn, splitOn_no_sep 47 _ hv]

/-- **Routing rule.**  For every name without '/', and all 64-bit MAJOR.MINOR.PATCH on both
sides, the identifier "/iname/M.m.p" is matched by handler (hname, "M'.m'.p'") exactly when
iname = hname ∧ M = M' ∧ m ≤ m'. -/
theorem C16_routing_rule (iname hname : Bytes) (iv hv : Version)
    (hn : (47 : UInt8) ∉ iname)
    (hi : iv.major < 2^64 ∧ iv.minor < 2^64 ∧ iv.patch < 2^64)
    (hh : hv.major < 2^64 ∧ hv.minor < 2^64 ∧ hv.patch < 2^64) :
    C16_matched (matchProto (protoId iname (showVersion iv)) hname (showVersion hv))
      = Spec.C16.rule iname hname iv hv := by
  unfold matchProto
  rw [C16_splitOn_protoId iname _ hn (C16_slash_not_mem_showVersion iv)]
  by_cases hname_eq : iname = hname
  · simp [hname_eq, C16_parseStrict_showVersion hv hh, C16_parseStrict_showVersion iv hi,
      C16_matched, Spec.C16.rule, BEq.comm (a := hv.major)]
  · simp [hname_eq, C16_matched, Spec.C16.rule]

/-- the observation the spec accepts is exactly the model's (no panic, rule-conformant match) -/
theorem C16_spec_on_model (iname hname : Bytes) (iv hv : Version)
    (hn : (47 : UInt8) ∉ iname)
    (hi : iv.major < 2^64 ∧ iv.minor < 2^64 ∧ iv.patch < 2^64)
    (hh : hv.major < 2^64 ∧ hv.minor < 2^64 ∧ hv.patch < 2^64) :
    Spec.C16.ok iname hname iv hv false
      (C16_matched (matchProto (protoId iname (showVersion iv)) hname (showVersion hv))) = true := by
  simp [Spec.C16.ok, C16_routing_rule iname hname iv hv hn hi hh]

/-- **Other shapes never match.**  An identifier whose number of '/'-separated segments is
not three, or whose name segment differs from the handler's, is never routed — whatever the
version texts are (including the lenient spellings outside the claim). -/
theorem C16_other_shapes_never_match (incoming hname version : Bytes)
    (h : ∀ a b c, splitOn 47 incoming = [a, b, c] → b ≠ hname) :
    C16_matched (matchProto incoming hname version) = false := by
  unfold matchProto
  split
  next a b c hs => simp [h a b c hs, C16_matched]
  next => rfl

/-- a strict version text is read with the same numbers by the unbounded reader of the spec -/
theorem C16_parseStrict_parseBig (bs : Bytes) (v : Version) (h : parseStrict bs = some v) :
    Spec.C16.parseBig bs = some v := by
  unfold parseStrict at h
  unfold Spec.C16.parseBig
  split at h
  next a b c hs =>
    split at h
    next x y z ha hb hc =>
      rw [C16_parseComponent_eq_some] at ha hb hc
      simpa only [hs, ha.2, hb.2, hc.2] using h
    next => contradiction
  next => contradiction

theorem C16_spec_raw_on_model (incoming hname version : Bytes) :
    Spec.C16.okRaw incoming hname version false (C16_matched (matchProto incoming hname version)) = true := by
  unfold Spec.C16.okRaw matchProto
  generalize splitOn 47 incoming = l
  split
  next a b c =>
    dsimp only
    by_cases hb : b = hname
    · cases hv : parseStrict version with
      | none => simp [hb]
      | some sv =>
        cases hp : parseStrict c with
        | none => cases Spec.C16.parseBig c <;> simp [hb, C16_matched]
        | some pv =>
          -- spec and model now test the same Boolean, up to the order of the majors
          simp only [C16_parseStrict_parseBig c pv hp, BEq.comm (a := sv.major)]
          cases pv.major == sv.major && decide (pv.minor ≤ sv.minor) <;> simp [hb, C16_matched]
    · simp [hb, C16_matched]
  next => simp [C16_matched]

/-- **numbers beyond 64 bits**: an identifier with the handler's name whose version is numeric but
does not fit the version library's 64-bit components is never routed (the library refuses it) — in
particular not one whose minor is astronomically *greater* than the handler's -/
theorem C16_overflowing_version_never_matches (incoming hname version a pver : Bytes)
    (hs : splitOn 47 incoming = [a, hname, pver]) (ho : parseStrict pver = none) :
    C16_matched (matchProto incoming hname version) = false := by
  unfold matchProto
  cases parseStrict version <;> simp [hs, ho, C16_matched]

/-- non-vacuity: a concrete identifier meets the hypotheses and is routed -/
example : C16_matched (matchProto (protoId Extracted.discoveryProtocolName (showVersion ⟨2, 0, 7⟩))
    Extracted.discoveryProtocolName (showVersion ⟨2, 1, 0⟩)) = true := by
  rw [C16_routing_rule _ _ _ _ (by decide) (by decide) (by decide)]; decide

/-- the protocol identifiers the node itself registers are of the claimed form -/
theorem C16_own_protocols_strict :
    parseStrict MevCommit.Extracted.preconfProtocolVersion ≠ none ∧
    parseStrict MevCommit.Extracted.discoveryProtocolVersion ≠ none := by
  decide

theorem C16_muxInsert_fresh (m : List Desc) (d : Desc) (h : d.1 ∉ m.map Prod.fst) :
    muxInsert m d = m ++ [d] := by
  rw [muxInsert, List.filter_eq_self.mpr]
  exact fun x hx => bne_iff_ne.mpr fun heq => h (heq ▸ List.mem_map_of_mem hx)

theorem C16_foldl_muxInsert_distinct (acc ds : List Desc)
    (h : (acc.map Prod.fst ++ ds.map Prod.fst).Nodup) : ds.foldl muxInsert acc = acc ++ ds := by
  induction ds generalizing acc with
  | nil => simp
  | cons d ds ih =>
    -- the two parts of a duplicate-free append share no element
    have hd : d.1 ∉ acc.map Prod.fst :=
      fun hm => (List.nodup_append.mp h).2.2 _ hm _ List.mem_cons_self rfl
    rw [List.foldl_cons, C16_muxInsert_fresh acc d hd, ih (acc ++ [d]) (by simpa using h)]
    simp

/-- **Every protocol stays registered.**  When the descriptors handed to the node carry distinct
protocol names (the node's do: handshake, discovery, preconfirmation), the muxer ends up holding
every one of them — equal *version strings* of different protocols do not evict each other. -/
theorem C16_distinct_names_all_registered (ds : List Desc) (h : (ds.map Prod.fst).Nodup) :
    registerAll ds = ds :=
  C16_foldl_muxInsert_distinct [] ds h

/-- routing a stream looks at the incoming identifier and the registered descriptors only: the
identifiers seen before (well-formed or not) are no input of it, and with distinct names a
descriptor is among the targets iff the name / major / minor rule says so -/
theorem C16_routing_is_history_free (ds : List Desc) (h : (ds.map Prod.fst).Nodup) (incoming : Bytes)
    (d : Desc) : d ∈ routedTo (registerAll ds) incoming ↔
      d ∈ ds ∧ matchProto incoming d.1 d.2 = .decided true := by
  rw [C16_distinct_names_all_registered ds h]
  simp only [routedTo, List.mem_filter]
  refine and_congr_right fun _ => ?_
  split
  next hd => exact iff_of_true rfl hd
  next hd => exact iff_of_false Bool.false_ne_true hd

example : registerAll [([100], [50]), ([112], [50])] = [([100], [50]), ([112], [50])] := by decide
/-- (and what happens when two descriptors do share a name: the earlier one is replaced) -/
example : registerAll [([100], [49]), ([100], [50])] = [([100], [50])] := by decide
