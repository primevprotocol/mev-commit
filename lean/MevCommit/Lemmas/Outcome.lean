import MevCommit.Basic
/- `Outcome`: when a bind or an error guard yields a value, when a panic -/
namespace MevCommit.Outcome

theorem isOk_iff {α} {x : Outcome α} : x.isOk = true ↔ ∃ a, x = .ok a := by
  cases x <;> simp [isOk]

theorem bind_eq_ok_iff {α β} (x : Outcome α) (f : α → Outcome β) (b : β) :
    x.bind f = .ok b ↔ ∃ a, x = .ok a ∧ f a = .ok b := by
  cases x <;> simp [bind]

theorem bind_eq_panic_iff {α β} (x : Outcome α) (f : α → Outcome β) (p : String) :
    x.bind f = .panic p ↔ x = .panic p ∨ ∃ a, x = .ok a ∧ f a = .panic p := by
  cases x <;> simp [bind]

theorem guard_eq_ok_iff {α} (c : Prop) [Decidable c] (e : String) (x : Outcome α) (a : α) :
    (if c then .err e else x) = .ok a ↔ ¬ c ∧ x = .ok a := by
  split <;> simp [*]

theorem guard_eq_panic_iff {α} (c : Prop) [Decidable c] (e : String) (x : Outcome α) (p : String) :
    (if c then .err e else x) = .panic p ↔ ¬ c ∧ x = .panic p := by
  split <;> simp [*]

end MevCommit.Outcome
