import MevCommit.Model.BidderApi
import MevCommit.Lemmas.Split
import MevCommit.Lemmas.Decimal
open MevCommit MevCommit.BidderApi

theorem C19_validAmount_iff (a : Bytes) :
    validAmount a = true ↔ ∃ v, parseDec a = some v ∧ 0 < v ∧ v < 2 ^ 64 := by
  unfold validAmount
  cases parseDec a <;> simp

/-- **Acceptance = the published well-formedness**: non-empty list of 64-hex-digit hashes, amount
a decimal integer in [1, 2^64), positive block number and decay timestamps. -/
theorem C19_accept_iff (r : Req) :
    accept r = true ↔
      (r.txHashes ≠ [] ∧ ∀ h ∈ r.txHashes, h.length = 64 ∧ ∀ c ∈ h, isHexChar c = true) ∧
      (∃ v, parseDec r.amount = some v ∧ 0 < v ∧ v < 2 ^ 64) ∧
      0 < r.blockNumber ∧ 0 < r.decayStart ∧ 0 < r.decayEnd := by
  simp only [accept, C19_validAmount_iff, validPos, validHash, Bool.and_eq_true, List.all_eq_true,
    Bool.not_eq_true', List.isEmpty_eq_false_iff, decide_eq_true_eq, beq_iff_eq, and_assoc]
  exact and_left_comm

theorem C19_rejected_nothing_sent (r : Req) (h : accept r = false) : forwarded r = none := by
  simp [forwarded, h]

theorem C19_hex_has_no_comma (h : Bytes) (hv : ∀ c ∈ h, isHexChar c = true) : (44 : UInt8) ∉ h :=
  fun hm => absurd (hv 44 hm) (by decide)

/-- join then split on ',' gives the list back when no element contains ',' -/
theorem C19_split_join (hs : List Bytes) (hne : hs ≠ []) (hc : ∀ h ∈ hs, (44 : UInt8) ∉ h) :
    Semver.splitOn 44 (joinComma hs) = hs := by
  fun_induction joinComma hs with
  | case1 => exact absurd rfl hne
  | case2 x => exact Semver.splitOn_no_sep 44 x (hc x (by simp))
  | case3 x y rest ih =>
    rw [List.forall_mem_cons] at hc
    rw [Semver.splitOn_append_sep 44 x _ hc.1, ih (by simp) hc.2]

/-- **Verbatim forwarding**: for every accepted request the sender receives the request's own
values, and the joined hash string splits back into exactly the request's hashes, in order. -/
theorem C19_forwarded_verbatim (r : Req) (h : accept r = true) :
    ∃ f, forwarded r = some f ∧ Semver.splitOn 44 f.txHash = r.txHashes ∧ f.amount = r.amount ∧
      f.blockNumber = r.blockNumber ∧ f.decayStart = r.decayStart ∧ f.decayEnd = r.decayEnd := by
  have ha := (C19_accept_iff r).mp h
  exact ⟨_, if_pos h, C19_split_join r.txHashes ha.1.1 fun x hx => C19_hex_has_no_comma x (ha.1.2 x hx).2,
    rfl, rfl, rfl, rfl⟩

/-- amounts at the boundary: 2^64 − 1 accepted, 2^64 rejected, zero rejected, signs rejected -/
theorem C19_amount_boundaries :
    validAmount (showDec (2 ^ 64 - 1)) = true ∧ validAmount (showDec (2 ^ 64)) = false ∧
    validAmount (showDec 0) = false ∧ validAmount (43 :: showDec 5) = false ∧
    validAmount (45 :: showDec 5) = false ∧ validAmount [] = false := by
  have hshow (n : Nat) : validAmount (showDec n) = (decide (0 < n) && decide (n < 2 ^ 64)) := by
    simp [validAmount, parseDec_showDec]
  have hsign (c : UInt8) (bs : Bytes) (hc : isDigit c = false) : validAmount (c :: bs) = false := by
    simp [validAmount, parseDec, hc]
  rw [hshow, hshow, hshow, hsign 43 _ (by decide), hsign 45 _ (by decide)]
  decide

/-- **Every call answers for its own request, whatever came before.**  In a session of any length
through the one service, the k-th call forwards the k-th request's own values (or nothing, when
that request is malformed) and streams that call's commitments — a refused hand-over, a rejected
request or a large bundle earlier in the session leaves no trace in it. -/
theorem C19_session_call_is_its_own (pre post : List (Req × Net)) (r : Req) (n : Net) :
    (session (pre ++ (r, n) :: post))[pre.length]? = some (handle1 r n) := by
  simp [session]

/-- a hand-over the network layer refuses: the request's own values were offered once, nothing is
streamed, and the caller is told (Internal), for accepted requests only -/
theorem C19_refused_handover (r : Req) (h : accept r = true) :
    handle1 r .fails =
      ⟨.internal, [⟨joinComma r.txHashes, r.amount, r.blockNumber, r.decayStart, r.decayEnd⟩], []⟩ := by
  simp [handle1, forwarded, h]

/-- a malformed request reaches the network layer in no session position -/
theorem C19_session_malformed_never_forwarded (xs : List (Req × Net)) (o : Out) (k : Nat)
    (hk : (session xs)[k]? = some o) (r : Req) (n : Net) (hx : xs[k]? = some (r, n))
    (hbad : accept r = false) : o.forwarded = [] ∧ o.streamed = [] ∧ o.status = .invalid := by
  simp [session, hx] at hk
  subst hk
  simp [handle1, C19_rejected_nothing_sent r hbad]
