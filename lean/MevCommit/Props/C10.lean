import MevCommit.Model.Cancel
import MevCommit.Spec.C10
open MevCommit MevCommit.Cancel

/-- the regenerated constants are the ones the property names -/
theorem C10_constants :
    Extracted.cancelBumpNum = 110 ∧ Extracted.cancelBumpDen = 100 ∧
    Extracted.cancelGas = 21000 ∧ Extracted.cancelValue = 0 := by decide

/-- **Exact caps** for every natural (no 64-bit bound): the tip is ⌊110·max(tip_o, tip_s)/100⌋
and the fee cap is max(price_o, feeCap_o) plus that tip. -/
theorem C10_exact_caps (e : Env) (t : TxCaps) (sugg : Nat) :
    (replacement e t sugg).tip = 110 * (max t.tip sugg) / 100 ∧
    (replacement e t sugg).feeCap = max t.gasPrice t.feeCap + 110 * (max t.tip sugg) / 100 := by
  -- each of the two `if`s of `CancelTx` is a `max`
  simp only [replacement, bumpedTip, C10_constants.1, C10_constants.2.1, ← Nat.max_def,
    Nat.max_comm sugg, Nat.mul_comm _ 110, and_self]

theorem C10_tip_bumps (e : Env) (t : TxCaps) (sugg : Nat) :
    110 * t.tip / 100 ≤ (replacement e t sugg).tip ∧ 110 * sugg / 100 ≤ (replacement e t sugg).tip := by
  rw [(C10_exact_caps e t sugg).1]
  exact ⟨Nat.div_le_div_right (Nat.mul_le_mul_left _ (Nat.le_max_left ..)),
    Nat.div_le_div_right (Nat.mul_le_mul_left _ (Nat.le_max_right ..))⟩

theorem C10_feeCap_covers (e : Env) (t : TxCaps) (sugg : Nat) :
    t.feeCap + (replacement e t sugg).tip ≤ (replacement e t sugg).feeCap := by
  rw [(C10_exact_caps e t sugg).2, (C10_exact_caps e t sugg).1]
  exact Nat.add_le_add_right (Nat.le_max_right ..) _

theorem C10_le_bump (x : Nat) : x ≤ 110 * x / 100 := by
  rw [Nat.le_div_iff_mul_le (by decide), Nat.mul_comm]
  exact Nat.mul_le_mul_right x (by decide)

/-- the bumped tip outbids both the original and the suggested tip -/
theorem C10_tip_outbids (e : Env) (t : TxCaps) (sugg : Nat) :
    t.tip ≤ (replacement e t sugg).tip ∧ sugg ≤ (replacement e t sugg).tip := by
  have h := C10_tip_bumps e t sugg
  exact ⟨Nat.le_trans (C10_le_bump _) h.1, Nat.le_trans (C10_le_bump _) h.2⟩

theorem C10_replacement_good (e : Env) (t : TxCaps) (sugg : Nat) (hs : e.suggestTip = some sugg) :
    Spec.C10.goodReplacement e t (replacement e t sugg) = true := by
  simp only [Spec.C10.goodReplacement, hs, Nat.le_of_eq (C10_exact_caps e t sugg).1.symm,
    C10_feeCap_covers, decide_true, Bool.and_true]
  simp [replacement, C10_constants]

/-- **The property holds of the model, for every environment.** -/
theorem C10_cancel_conforms (e : Env) : Spec.C10.ok e (cancelTx e) = true := by
  unfold Spec.C10.ok cancelTx
  cases e.lookup with
  | pending t =>
    cases hs : e.suggestTip with
    | none => simp
    | some sugg => cases e.signOk <;> simp [C10_replacement_good e t sugg hs]
  | _ => simp

/-- refusal: anything but a pending target yields an error and no submission -/
theorem C10_refuses_non_pending (e : Env) (h : ∀ t, e.lookup ≠ .pending t) :
    (cancelTx e).ok = false ∧ (cancelTx e).submitted = [] := by
  unfold cancelTx
  cases hl : e.lookup with
  | pending t => exact absurd hl (h t)
  | _ => simp

/-- non-vacuity: a pending target with a >64-bit tip is replaced -/
example : (cancelTx ⟨.pending ⟨7, 2^70, 2^70, 2^65 + 99⟩, some 5, true, true, 1⟩).submitted.length = 1 := by
  decide

/-- what the chain node reports for a replacement this client submitted (a dynamic-fee
transaction: `GasPrice()` is its fee cap) -/
def C10_asLookedUp (r : Replacement) : TxCaps := ⟨r.nonce, r.feeCap, r.feeCap, r.tip⟩

/-- **Cancelling a cancellation.**  A replacement the client submitted earlier, still pending, is
cancelled like any other transaction: the second replacement re-uses the nonce, its tip is at
least 110 % of the first replacement's tip and of what the node suggests *now*, and its fee cap
covers the first replacement's fee cap plus the new tip — however many times this is repeated
(`C10_cancel_chain`). -/
theorem C10_cancel_of_cancellation (e1 e2 : Env) (t : TxCaps) (s1 s2 : Nat) :
    let r1 := replacement e1 t s1
    let r2 := replacement e2 (C10_asLookedUp r1) s2
    r2.nonce = t.nonce ∧ 110 * r1.tip / 100 ≤ r2.tip ∧ 110 * s2 / 100 ≤ r2.tip ∧
    r1.feeCap + r2.tip ≤ r2.feeCap ∧ r1.tip ≤ r2.tip := by
  intro r1 r2
  have hb := C10_tip_bumps e2 (C10_asLookedUp r1) s2
  exact ⟨rfl, hb.1, hb.2, C10_feeCap_covers e2 (C10_asLookedUp r1) s2,
    (C10_tip_outbids e2 (C10_asLookedUp r1) s2).1⟩

/-- the k-th replacement in a chain of cancellations of cancellations -/
def C10_chain (e : Env) (t : TxCaps) : List Nat → TxCaps
  | [] => t
  | s :: ss => C10_chain e (C10_asLookedUp (replacement e t s)) ss

/-- along any chain of cancellations the nonce is the original's and tip and fee cap never go down -/
theorem C10_cancel_chain (e : Env) (t : TxCaps) (ss : List Nat) :
    (C10_chain e t ss).nonce = t.nonce ∧ t.tip ≤ (C10_chain e t ss).tip ∧
    t.feeCap ≤ (C10_chain e t ss).feeCap := by
  induction ss generalizing t with
  | nil => exact ⟨rfl, Nat.le_refl _, Nat.le_refl _⟩
  | cons s ss ih =>
    have h := ih (C10_asLookedUp (replacement e t s))
    exact ⟨h.1, Nat.le_trans (C10_tip_outbids e t s).1 h.2.1,
      Nat.le_trans (Nat.le_trans (Nat.le_add_right ..) (C10_feeCap_covers e t s)) h.2.2⟩

example : (C10_chain ⟨.notFound, none, true, true, 1⟩ ⟨5, 100, 100, 10⟩ [10, 50, 3]).tip = 60 := by decide
