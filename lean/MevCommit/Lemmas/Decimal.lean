import MevCommit.Basic
/- decimal print / parse round trip -/
namespace MevCommit

theorem digitsVal_append_single (xs : Bytes) (d : UInt8) :
    digitsVal (xs ++ [d]) = digitsVal xs * 10 + (d.toNat - 48) := by
  simp [digitsVal, List.foldl_append]

theorem toNat_digit (k : Nat) (hk : k < 10) : (digitChar k).toNat = 48 + k :=
  show (48 + k) % 256 = 48 + k from
    Nat.mod_eq_of_lt (Nat.lt_trans (Nat.add_lt_add_left hk 48) (by decide))

theorem isDigit_digit (k : Nat) (hk : k < 10) : isDigit (digitChar k) = true := by
  simpa [isDigit, toNat_digit k hk] using Nat.add_le_add_left (Nat.le_of_lt_succ hk) 48

theorem showDec_ne_nil (n : Nat) : showDec n ≠ [] := by
  fun_induction showDec n <;> simp

theorem showDec_all_digits (n : Nat) : (showDec n).all isDigit = true := by
  fun_induction showDec n with
  | case1 n h => simp [isDigit_digit n h]
  | case2 n h ih => simp [ih, isDigit_digit (n % 10) (Nat.mod_lt n (by decide))]

theorem digitsVal_showDec (n : Nat) : digitsVal (showDec n) = n := by
  fun_induction showDec n with
  | case1 n h => simp [digitsVal, toNat_digit n h]
  | case2 n h ih =>
    rw [digitsVal_append_single, ih, toNat_digit _ (Nat.mod_lt n (by decide)), Nat.add_sub_cancel_left,
      Nat.div_add_mod']

theorem parseDec_showDec (n : Nat) : parseDec (showDec n) = some n := by
  simp [parseDec, showDec_ne_nil, showDec_all_digits, digitsVal_showDec]

theorem not_mem_showDec (n : Nat) (c : UInt8) (hc : isDigit c = false) : c ∉ showDec n :=
  fun hmem => by simpa [hc] using List.all_eq_true.mp (showDec_all_digits n) c hmem

end MevCommit
