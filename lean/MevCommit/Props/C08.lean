import MevCommit.Model.Nonce
import MevCommit.Spec.C08
/-
C08 — property theorems.  Model `Nonce.step/run`, spec `Spec.C08.check`.
All statements quantify over arbitrary operation lists (any interleaving of sends — each an
atomic step because `Send` holds the mutex —, monitor updates, failed monitor rounds, cancellations
and restarts; any fault placement; any pending answers, lagging or not).
-/
open MevCommit MevCommit.Nonce

theorem C08_window_constant : Extracted.maxSentTxs = 1024 := by decide

theorem C08_getNonce_max (n p : Nat) : getNonce n p = max n p := by
  unfold getNonce
  by_cases h0 : n = 0
  · simp [h0]
  · -- `if n < p then p else n` is `max p n` unfolded, with the test negated
    simp only [if_neg h0, Nat.max_comm n p, Nat.max_def, ← Nat.not_le, ite_not]

/-- A send that got an answer, in closed form: the nonce is `max counter answer`; it is consumed
exactly when the window admits it and no later call fails. -/
theorem C08_step_send (s : St) (r : SendReq) (p : Nat) (hp : r.pending = some p) :
    step s (.send r) =
      let n := max s.nonce p
      if n ≤ s.confirmed + 1024 ∧ r.fault = .none then (⟨n + 1, s.confirmed⟩, .sent n p)
      else (⟨n, s.confirmed⟩, .failed (some p)) := by
  simp only [step, hp, allow, C08_getNonce_max, C08_window_constant]
  by_cases hw : max s.nonce p ≤ s.confirmed + 1024 <;> by_cases hf : r.fault = .none <;> simp [hw, hf]

theorem C08_check_cons (t : Spec.C08.S) (e : Ev) (es : List Ev) :
    Spec.C08.check t (e :: es) = true ↔
      (Spec.C08.stepOk t e).1 = true ∧ Spec.C08.check (Spec.C08.stepOk t e).2 es = true := by
  rw [Spec.C08.check, Bool.and_eq_true]

theorem C08_check_sent (t : Spec.C08.S) (n p : Nat) (es : List Ev) :
    Spec.C08.check t (.sent n p :: es) = true ↔
      (Spec.C08.base t ≤ n ∧ p ≤ n ∧ (n ≤ Spec.C08.base t ∨ n ≤ t.maxPend ∨ n ≤ p) ∧ n ≤ t.highest + 1024) ∧
      Spec.C08.check ⟨some n, 0, t.highest⟩ es = true := by
  simp only [C08_check_cons, Spec.C08.stepOk, Bool.and_eq_true, decide_eq_true_eq, and_assoc]

theorem C08_check_failed (t : Spec.C08.S) (q : Option Nat) (es : List Ev) :
    Spec.C08.check t (.failed q :: es) = true ↔
      Spec.C08.check ⟨t.last, (match q with | some x => max t.maxPend x | none => t.maxPend), t.highest⟩ es = true := by
  cases q <;> simp only [C08_check_cons, Spec.C08.stepOk, true_and]

theorem C08_base_some (n m h : Nat) : Spec.C08.base ⟨some n, m, h⟩ = n + 1 := rfl

/-- coupling between allocator state and the spec's bookkeeping -/
def C08_Inv (s : St) (t : Spec.C08.S) : Prop :=
  s.nonce = max (Spec.C08.base t) t.maxPend ∧ s.confirmed ≤ t.highest

theorem C08_inv_init : C08_Inv init Spec.C08.S0 := ⟨rfl, Nat.le_refl 0⟩

/-- one step: the emitted event is accepted by the spec and the coupling is preserved -/
theorem C08_step_ok (s : St) (t : Spec.C08.S) (op : Op) (h : C08_Inv s t) :
    (Spec.C08.stepOk t (step s op).2).1 = true ∧
    C08_Inv (step s op).1 (Spec.C08.stepOk t (step s op).2).2 := by
  obtain ⟨hn, hc⟩ := h
  cases op with
  | monitor c => exact ⟨rfl, hn, Nat.le_max_right _ _⟩
  | restart => exact ⟨rfl, rfl, Nat.zero_le _⟩
  | cancel | monitorFailed => exact ⟨rfl, hn, hc⟩
  | send r =>
    cases hp : r.pending with
    | none =>
      simp only [step, hp]
      exact ⟨rfl, hn, hc⟩
    | some p =>
      simp only [C08_step_send s r p hp, hn]
      split
      next hw =>
        -- the nonce `max (max base maxPend) p` meets the four conditions on a `sent` event
        simp only [Spec.C08.stepOk, C08_Inv, C08_base_some, Bool.and_eq_true, decide_eq_true_eq,
          Nat.max_zero, true_and]
        omega
      next => exact ⟨rfl, Nat.max_assoc _ _ _, hc⟩

theorem C08_run_ok (ops : List Op) (s : St) (t : Spec.C08.S) (h : C08_Inv s t) :
    Spec.C08.check t (run s ops) = true := by
  induction ops generalizing s t with
  | nil => rfl
  | cons op ops ih =>
    have := C08_step_ok s t op h
    exact (C08_check_cons ..).mpr ⟨this.1, ih _ _ this.2⟩

/-- **Main theorem.**  Every history of a freshly started client satisfies the property. -/
theorem C08_all_histories (ops : List Op) : Spec.C08.ok (run init ops) = true :=
  C08_run_ok ops init Spec.C08.S0 C08_inv_init

/-! Consequences of the spec, stated directly on event lists (so that they also apply to any
implementation trace the spec accepts). -/

/-- successful nonces of one lifetime, in order -/
def C08_lifetimeNonces : List Ev → List Nat
  | [] => []
  | .sent n _ :: es => n :: C08_lifetimeNonces es
  | .restarted :: _ => []
  | _ :: es => C08_lifetimeNonces es

/-- `C08_strictly_increasing` with the bound that lets the induction put a new nonce in front -/
theorem C08_nonces_sorted (t : Spec.C08.S) (es : List Ev) (h : Spec.C08.check t es = true) :
    (C08_lifetimeNonces es).Pairwise (· < ·) ∧ ∀ n ∈ C08_lifetimeNonces es, Spec.C08.base t ≤ n := by
  induction es generalizing t with
  | nil => exact ⟨.nil, nofun⟩
  | cons e es ih =>
    have ⟨hs, hb⟩ := ih _ ((C08_check_cons t e es).mp h).2
    cases e with
    | sent n p =>
      have hn : Spec.C08.base t ≤ n := ((C08_check_sent t n p es).mp h).1.1
      -- `base` of the state after `sent n` is `n + 1`
      have hb : ∀ m ∈ C08_lifetimeNonces es, n < m := hb
      exact ⟨List.pairwise_cons.mpr ⟨hb, hs⟩,
        List.forall_mem_cons.mpr ⟨hn, fun m hm => Nat.le_trans hn (Nat.le_of_lt (hb m hm))⟩⟩
    | restarted => exact ⟨.nil, nofun⟩
    -- every other event leaves both `base` and the list of nonces as they are
    | failed q => cases q <;> exact ⟨hs, hb⟩
    | _ => exact ⟨hs, hb⟩

/-- **No reuse**: within a lifetime the successfully submitted nonces are strictly increasing. -/
theorem C08_strictly_increasing (t : Spec.C08.S) (es : List Ev) (h : Spec.C08.check t es = true) :
    (C08_lifetimeNonces es).Pairwise (· < ·) :=
  (C08_nonces_sorted t es h).1

/-- **Window**: every accepted submission is within 1024 of the highest confirmed nonce reported
so far, and at least its own pending answer. -/
theorem C08_window_and_pending (t : Spec.C08.S) (n p : Nat) (es : List Ev)
    (h : Spec.C08.check t (.sent n p :: es) = true) : p ≤ n ∧ n ≤ t.highest + 1024 := by
  rw [C08_check_sent] at h
  exact ⟨h.1.2.1, h.1.2.2.2⟩

/-- No skip, in general: a success uses exactly `base` unless some answer since the previous
success (its own included) reported more. -/
theorem C08_next_is_base (t : Spec.C08.S) (n p : Nat) (es : List Ev)
    (h : Spec.C08.check t (.sent n p :: es) = true)
    (hm : t.maxPend ≤ Spec.C08.base t) (hp : p ≤ Spec.C08.base t) : n = Spec.C08.base t := by
  rw [C08_check_sent] at h
  omega

/-- **No skip**: two consecutive successes with nothing between and no outside transaction
reported (answer ≤ previous+1) use consecutive nonces. -/
theorem C08_consecutive (t : Spec.C08.S) (n p n' p' : Nat) (es : List Ev)
    (h : Spec.C08.check t (.sent n p :: .sent n' p' :: es) = true) (hp : p' ≤ n + 1) : n' = n + 1 := by
  rw [C08_check_sent] at h
  exact C08_next_is_base _ n' p' es h.2 (Nat.zero_le _) hp

/-- **A failed request consumes no nonce**: success, then a failure whose answer reported no
outside transaction, then success ⇒ still the consecutive nonce. -/
theorem C08_failure_consumes_nothing (t : Spec.C08.S) (n p n' p' : Nat) (q : Option Nat) (es : List Ev)
    (h : Spec.C08.check t (.sent n p :: .failed q :: .sent n' p' :: es) = true)
    (hq : ∀ x, q = some x → x ≤ n + 1) (hp : p' ≤ n + 1) : n' = n + 1 := by
  rw [C08_check_sent, C08_check_failed] at h
  refine C08_next_is_base _ n' p' es h.2 ?_ hp
  cases q with
  | none => exact Nat.zero_le _
  | some x => exact Nat.max_le.mpr ⟨Nat.zero_le _, hq x rfl⟩

/-- **Cancellation does not disturb the allocator**: the state after a cancellation is the state
before it, so every later submission gets the nonce it would have got anyway — in particular the
send after a send-and-cancel still uses the consecutive nonce. -/
theorem C08_cancel_is_invisible (s : St) (ops : List Op) :
    (step s .cancel).1 = s ∧ run s (.cancel :: ops) = .cancelled :: run s ops :=
  ⟨rfl, rfl⟩

/-- **A monitor round that learns nothing changes nothing**: when the confirmed-nonce query of a
round fails — whatever the node's pending-nonce query would have answered — the allocator and the
window are as before; in particular a request that was outside the window stays outside it. -/
theorem C08_failed_monitor_round_is_invisible (s : St) (ops : List Op) (r : SendReq) :
    (step s .monitorFailed).1 = s ∧ run s (.monitorFailed :: ops) = .monFailed :: run s ops ∧
    (step (step s .monitorFailed).1 (.send r)) = step s (.send r) :=
  ⟨rfl, rfl, rfl⟩

/-- **Across a restart** the client persists nothing; strict monotonicity then needs the chain
node's first answer to exceed what it already accepted from this account.  Under that
hypothesis the first submission after the restart exceeds every earlier one. -/
theorem C08_after_restart (s : St) (r : SendReq) (p prevMax : Nat)
    (hp : r.pending = some p) (hfresh : prevMax < p) (n q : Nat)
    (h : (step (step s .restart).1 (.send r)).2 = .sent n q) : prevMax < n := by
  simp only [C08_step_send _ r p hp] at h
  split at h
  · obtain ⟨rfl, -⟩ := Ev.sent.inj h
    exact Nat.lt_of_lt_of_le hfresh (Nat.le_max_right _ _)
  · cases h

/-- the hypothesis is necessary: a lagging first answer after a restart re-uses a nonce -/
theorem C08_restart_needs_fresh_answer :
    run init [.send ⟨some 5, .none⟩, .restart, .send ⟨some 5, .none⟩] =
      [.sent 5 5, .restarted, .sent 5 5] := by decide

/-- non-vacuity: a concrete history with a lagging answer, a failure and a monitor update -/
example : run init [.send ⟨some 0, .none⟩, .send ⟨some 0, .none⟩, .send ⟨some 1, .submit⟩,
    .monitor 2, .send ⟨some 7, .none⟩, .send ⟨none, .none⟩, .send ⟨some 3, .none⟩] =
    [.sent 0 0, .sent 1 0, .failed (some 1), .mon 2, .sent 7 7, .failed none, .sent 8 3] := by decide
