import MevCommit.Model.Signer
import MevCommit.Lemmas.BE
import MevCommit.Lemmas.Outcome
import MevCommit.Lemmas.Hex
import MevCommit.Spec.C02
/-
C02 — soundness and field binding of bid / commitment verification, for every hash function
`H` and every signature scheme `S` (the cryptographic primitives are parameters).
-/
open MevCommit MevCommit.Signer

theorem C02_verifySig_ok_iff (S : Scheme) (h sig a : Bytes) :
    verifySig S h sig = .ok a ↔
      ∃ pub, S.recover h sig = some pub ∧ S.verifyLowS pub h (sig.take 64) = true ∧ a = S.addrOf pub := by
  unfold verifySig
  cases S.recover h sig with
  | none => simp
  | some pub =>
    -- `a` stands on the right of the goal's equation and on the left of the `.ok` it is compared with
    simp only [Option.some.injEq, exists_eq_left', @eq_comm _ a]
    split <;> simp [*]

/-- `eipVerify` succeeds exactly when the presented digest is the recomputed one, the signature
has 65 bytes, recovery on the normalised signature yields a key, the low-S verification of
r‖s passes, and the reported address is that key's. -/
theorem C02_eipVerify_ok_iff (S : Scheme) (h d s a : Bytes) :
    eipVerify S h d s = .ok a ↔
      h = d ∧ s.length = 65 ∧ ∃ pub, S.recover h (normaliseV s) = some pub ∧
        S.verifyLowS pub h ((normaliseV s).take 64) = true ∧ a = S.addrOf pub := by
  simp only [eipVerify, Outcome.guard_eq_ok_iff, C02_verifySig_ok_iff, ne_eq, Decidable.not_not]

/-- `g` recomputes the hash that `eipVerify` then compares with the presented digest `d` -/
theorem C02_bind_eipVerify_ok_iff (S : Scheme) (g : Outcome Bytes) (d s a : Bytes) :
    g.bind (fun h => eipVerify S h d s) = .ok a ↔
      g = .ok d ∧ s.length = 65 ∧ ∃ pub, S.recover d (normaliseV s) = some pub ∧
        S.verifyLowS pub d ((normaliseV s).take 64) = true ∧ a = S.addrOf pub := by
  simp only [Outcome.bind_eq_ok_iff, C02_eipVerify_ok_iff]
  -- the one-point rule on the recomputed hash; `t` is the signature part
  constructor
  · rintro ⟨_, hg, rfl, t⟩; exact ⟨hg, t⟩
  · rintro ⟨hg, t⟩; exact ⟨_, hg, rfl, t⟩

theorem C02_verifyBid_ok_iff (H : Bytes → Bytes) (S : Scheme) (b : Bid) (a : Bytes) :
    verifyBid H S b = .ok a ↔
      ∃ d s, b.digest = some d ∧ b.signature = some s ∧ getBidHash H b = .ok d ∧ s.length = 65 ∧
        ∃ pub, S.recover d (normaliseV s) = some pub ∧
          S.verifyLowS pub d ((normaliseV s).take 64) = true ∧ a = S.addrOf pub := by
  unfold verifyBid
  split
  next d s hd hs =>
    simp only [hd, hs, Option.some.injEq, exists_and_left, exists_eq_left', C02_bind_eipVerify_ok_iff]
  next hn => exact iff_of_false nofun fun ⟨d, s, hd, hs, _⟩ => hn d s hd hs

/-- a commitment verifies only if its embedded bid is present and verifies, and its own digest
is the commitment hash over the bid's fields, hex(bid digest) and hex(bid signature) -/
theorem C02_verifyCommitment_ok_iff (H : Bytes → Bytes) (S : Scheme) (c : Commitment) (a : Bytes) :
    verifyCommitment H S c = .ok a ↔
      ∃ d s b bidAddr, c.digest = some d ∧ c.signature = some s ∧ c.bid = some b ∧
        verifyBid H S b = .ok bidAddr ∧ getCommitHash H b = .ok d ∧ s.length = 65 ∧
        ∃ pub, S.recover d (normaliseV s) = some pub ∧
          S.verifyLowS pub d ((normaliseV s).take 64) = true ∧ a = S.addrOf pub := by
  unfold verifyCommitment
  split
  next d s hd hs =>
    split
    next hb => simp [hb]
    next b hb =>
      rw [Outcome.bind_eq_ok_iff]
      simp only [hd, hs, hb, Option.some.injEq, exists_and_left, exists_eq_left', C02_bind_eipVerify_ok_iff]
  next hn => exact iff_of_false nofun fun ⟨d, s, _, _, hd, hs, _⟩ => hn d s hd hs

/-! ### No crash (also used by C06) -/

theorem C02_verifySig_no_panic (S : Scheme) (h sig : Bytes) (p : String) : verifySig S h sig ≠ .panic p := by
  unfold verifySig
  split
  · simp
  · split <;> simp

theorem C02_eipVerify_no_panic (S : Scheme) (h d s : Bytes) (p : String) :
    eipVerify S h d s ≠ .panic p := by
  simp only [eipVerify, ne_eq, Outcome.guard_eq_panic_iff, C02_verifySig_no_panic, and_false, not_false_eq_true]

theorem C02_getBidHash_no_panic (H : Bytes → Bytes) (b : Bid) (p : String) : getBidHash H b ≠ .panic p := by
  unfold getBidHash; split <;> simp

theorem C02_getCommitHash_no_panic (H : Bytes → Bytes) (b : Bid) (p : String) : getCommitHash H b ≠ .panic p := by
  unfold getCommitHash; split <;> simp

theorem C02_verifyBid_no_panic (H : Bytes → Bytes) (S : Scheme) (b : Bid) (p : String) :
    verifyBid H S b ≠ .panic p := by
  unfold verifyBid
  split <;> simp [Outcome.bind_eq_panic_iff, C02_getBidHash_no_panic, C02_eipVerify_no_panic]

theorem C02_verifyCommitment_no_panic (H : Bytes → Bytes) (S : Scheme) (c : Commitment) (p : String) :
    verifyCommitment H S c ≠ .panic p := by
  unfold verifyCommitment
  split
  · split <;> simp [Outcome.bind_eq_panic_iff, C02_verifyBid_no_panic, C02_getCommitHash_no_panic,
      C02_eipVerify_no_panic]
  · simp

/-- an explicit collision of the hash function -/
def C02_Collision (H : Bytes → Bytes) : Prop := ∃ x y, x ≠ y ∧ H x = H y

/-- Injectivity up to collision: to prove `P ∨ C02_Collision H`, prove `P` for injective `H`. -/
theorem C02_or_collision {H : Bytes → Bytes} {P : Prop} (h : (∀ {x y}, H x = H y → x = y) → P) :
    P ∨ C02_Collision H := by
  by_cases hcol : C02_Collision H
  · exact Or.inr hcol
  · exact Or.inl (h fun {x y} e => Decidable.byContradiction fun ne => hcol ⟨x, y, ne, e⟩)

/-- two's-complement 256-bit encoding is injective on every window narrower than 2^256 -/
theorem C02_be32_inj (x y : Int) (hx : -(2:Int)^255 ≤ x ∧ x < 2^256) (hy : -(2:Int)^255 ≤ y ∧ y < 2^256)
    (hxy : (x < 0 → y < 2^255) ∧ (y < 0 → x < 2^255))
    (h : be32 x = be32 y) : x = y := by
  have := (be32_eq_iff x y).mp h
  omega

structure C02_Fields where
  txHash : Bytes
  amount : Int
  blockNumber : Int
  decayStart : Int
  decayEnd : Int
  deriving DecidableEq

/-- the signed content of a bid: the tx-hash bytes, the *value* of the amount text, and the
three int64 members -/
def C02_fieldsOf (b : Bid) : Option C02_Fields :=
  (parseAmount b.amount).map (fun amt => ⟨b.txHash, amt, b.blockNumber, b.decayStart, b.decayEnd⟩)

def C02_int64 (x : Int) : Prop := -(2:Int)^63 ≤ x ∧ x < 2^63
def C02_int64Bid (b : Bid) : Prop := C02_int64 b.blockNumber ∧ C02_int64 b.decayStart ∧ C02_int64 b.decayEnd

theorem C02_be32_inj_int64 {x y : Int} (hx : C02_int64 x) (hy : C02_int64 y) (h : be32 x = be32 y) :
    x = y := by
  unfold C02_int64 at hx hy
  exact C02_be32_inj x y (by omega) (by omega) (by omega) h

theorem C02_parseAmount_range {a : Bytes} {v : Int} (h : parseAmount a = some v) : 0 ≤ v ∧ v < 2 ^ 256 := by
  unfold parseAmount at h
  split at h
  · split at h
    · cases h; assumption
    · cases h
  · cases h

/-- the five 32-byte member words that the bid and the commitment struct encodings share -/
def C02_memberWords (H : Bytes → Bytes) (b : Bid) (amt : Int) : List Bytes :=
  [H b.txHash, be32 amt, be32 b.blockNumber, be32 b.decayStart, be32 b.decayEnd]

theorem C02_fieldsOf_eq_of_memberWords {H : Bytes → Bytes} (inj : ∀ {x y}, H x = H y → x = y)
    {b1 b2 : Bid} {a1 a2 : Int} (r1 : C02_int64Bid b1) (r2 : C02_int64Bid b2)
    (ha1 : parseAmount b1.amount = some a1) (ha2 : parseAmount b2.amount = some a2)
    (h : C02_memberWords H b1 a1 = C02_memberWords H b2 a2) : C02_fieldsOf b1 = C02_fieldsOf b2 := by
  simp only [C02_memberWords, List.cons.injEq, and_true] at h
  obtain ⟨htx, hamt, hblk, hst, hen⟩ := h
  have p1 := C02_parseAmount_range ha1
  have p2 := C02_parseAmount_range ha2
  rw [be32_eq_iff, Int.emod_eq_of_lt p1.1 p1.2, Int.emod_eq_of_lt p2.1 p2.2] at hamt
  simp [C02_fieldsOf, ha1, ha2, inj htx, hamt, C02_be32_inj_int64 r1.1 r2.1 hblk,
    C02_be32_inj_int64 r1.2.1 r2.2.1 hst, C02_be32_inj_int64 r1.2.2 r2.2.2 hen]

theorem C02_getBidHash_ok_iff {H : Bytes → Bytes} {b : Bid} {d : Bytes} :
    getBidHash H b = .ok d ↔ ∃ amt, parseAmount b.amount = some amt ∧
      H (Extracted.bidPrefix ++
        (domainSeparator H Extracted.bidDomainType Extracted.bidDomainName Extracted.bidDomainVersion ++
         H (H Extracted.bidTypeString :: C02_memberWords H b amt).flatten)) = d := by
  unfold getBidHash
  split <;> simp [*, bidStructData, C02_memberWords]

theorem C02_getCommitHash_ok_iff {H : Bytes → Bytes} {b : Bid} {d : Bytes} :
    getCommitHash H b = .ok d ↔ ∃ amt, parseAmount b.amount = some amt ∧
      H (Extracted.commitPrefix ++
        (domainSeparator H Extracted.commitDomainType Extracted.commitDomainName Extracted.commitDomainVersion ++
         H (H Extracted.commitTypeString :: C02_memberWords H b amt ++
           [H (hexEncode (b.digest.getD [])), H (hexEncode (b.signature.getD []))]).flatten)) = d := by
  unfold getCommitHash
  split <;> simp [*, commitStructData, C02_memberWords]

/-- With `H` injective, the digest `H (pre ++ (dom ++ H (concatenated words)))` determines the
words, among word lists of the same widths (`List.eq_iff_flatten_eq`). -/
theorem C02_words_of_digest {H : Bytes → Bytes} (inj : ∀ {x y}, H x = H y → x = y) {pre dom : Bytes}
    {ws1 ws2 : List Bytes} (hw : ws1.map List.length = ws2.map List.length)
    (h : H (pre ++ (dom ++ H ws1.flatten)) = H (pre ++ (dom ++ H ws2.flatten))) : ws1 = ws2 := by
  have hstruct : H ws1.flatten = H ws2.flatten := List.append_cancel_left (List.append_cancel_left (inj h))
  exact List.eq_iff_flatten_eq.mpr ⟨inj hstruct, hw⟩

/-- **Binding of bids.**  If two bids (with int64 members, as the Go type guarantees) hash to the
same digest, then their signed contents are equal — same tx-hash bytes, same amount value, same
block number and decay timestamps — or an explicit collision of `H` is exhibited. -/
theorem C02_bid_binding (H : Bytes → Bytes) (hH : ∀ x, (H x).length = 32) (b1 b2 : Bid) (d : Bytes)
    (h1 : getBidHash H b1 = .ok d) (h2 : getBidHash H b2 = .ok d)
    (r1 : C02_int64Bid b1) (r2 : C02_int64Bid b2) :
    (C02_fieldsOf b1 = C02_fieldsOf b2 ∧ C02_fieldsOf b1 ≠ none) ∨ C02_Collision H := by
  refine C02_or_collision fun inj => ?_
  obtain ⟨a1, ha1, e1⟩ := C02_getBidHash_ok_iff.mp h1
  obtain ⟨a2, ha2, e2⟩ := C02_getBidHash_ok_iff.mp h2
  have hw := C02_words_of_digest inj (by simp [C02_memberWords, hH, be32_length]) (e1.trans e2.symm)
  exact ⟨C02_fieldsOf_eq_of_memberWords inj r1 r2 ha1 ha2 (List.cons.inj hw).2, by simp [C02_fieldsOf, ha1]⟩

/-- lowercase hex is injective -/
theorem C02_hexEncode_inj (a b : Bytes) (h : hexEncode a = hexEncode b) : a = b :=
  Option.some.inj (by rw [← hexDecode_hexEncode a, h, hexDecode_hexEncode b])

/-- **Binding of commitments**: equal commitment digests ⇒ equal bid fields *and* equal bid
digest and bid signature bytes (or a collision of `H`). -/
theorem C02_commitment_binding (H : Bytes → Bytes) (hH : ∀ x, (H x).length = 32) (b1 b2 : Bid) (d : Bytes)
    (h1 : getCommitHash H b1 = .ok d) (h2 : getCommitHash H b2 = .ok d)
    (r1 : C02_int64Bid b1) (r2 : C02_int64Bid b2) :
    (C02_fieldsOf b1 = C02_fieldsOf b2 ∧ b1.digest.getD [] = b2.digest.getD [] ∧
      b1.signature.getD [] = b2.signature.getD []) ∨ C02_Collision H := by
  refine C02_or_collision fun inj => ?_
  obtain ⟨a1, ha1, e1⟩ := C02_getCommitHash_ok_iff.mp h1
  obtain ⟨a2, ha2, e2⟩ := C02_getCommitHash_ok_iff.mp h2
  have hw := C02_words_of_digest inj (by simp [C02_memberWords, hH, be32_length]) (e1.trans e2.symm)
  obtain ⟨hm, ht⟩ := List.append_inj (List.cons.inj hw).2 (by simp [C02_memberWords])
  simp only [List.cons.injEq, and_true] at ht
  exact ⟨C02_fieldsOf_eq_of_memberWords inj r1 r2 ha1 ha2 hm,
    C02_hexEncode_inj _ _ (inj ht.1), C02_hexEncode_inj _ _ (inj ht.2)⟩

/-- the range guard of `parseAmount` is needed: without it `5` and `2^256 + 5` would be encoded
into the same word (this was accepted by the pinned tree; see DESIGN.md, D10) -/
theorem C02_amount_alias_witness : be32 5 = be32 (2 ^ 256 + 5) ∧ be32 5 = be32 (-(2 ^ 256 - 5)) :=
  ⟨(be32_eq_iff ..).mpr (by decide), (be32_eq_iff ..).mpr (by decide)⟩

/-- order of the secp256k1 group and its half -/
def C02_secpN : Nat := 0xFFFFFFFFFFFFFFFFFFFFFFFFFFFFFFFEBAAEDCE6AF48A03BBFD25E8CD0364141
def C02_halfN : Nat := C02_secpN / 2

/-- if s is a canonical (low) non-zero scalar then n − s is high: the malleated twin (r, n−s)
of an accepted signature fails the low-S verification -/
theorem C02_malleated_s_is_high (s : Nat) (h0 : 0 < s) (hs : s ≤ C02_halfN) :
    C02_halfN < C02_secpN - s := by
  unfold C02_halfN C02_secpN at *
  omega

theorem C02_take_normaliseV (rs : Bytes) (v : UInt8) (h : rs.length = 64) :
    (normaliseV (rs ++ [v])).take 64 = rs := by
  rw [normaliseV, List.getLast?_concat]
  dsimp only
  split
  · rw [List.dropLast_concat, List.take_left' h]
  · exact List.take_left' h

/-- a signature whose `s` is the high twin `n − s` of a low non-zero scalar is rejected, whatever its
recovery byte says and whether or not a key is recovered from it -/
theorem C02_high_s_rejected (S : Scheme) (h d r : Bytes) (s : Nat) (v : UInt8)
    (lowS : ∀ pub hh rs, S.verifyLowS pub hh rs = true → fromBE (rs.drop 32) ≤ C02_halfN)
    (hr : r.length = 32) (h0 : 0 < s) (hs : s ≤ C02_halfN) (a : Bytes) :
    eipVerify S h d (r ++ toBE 32 (C02_secpN - s) ++ [v]) ≠ .ok a := by
  intro hok
  obtain ⟨_, _, pub, _, h2, _⟩ := (C02_eipVerify_ok_iff ..).mp hok
  rw [C02_take_normaliseV _ v (by simp [hr])] at h2
  have hlow := lowS _ _ _ h2
  rw [List.drop_left' hr, fromBE_toBE32 (by unfold C02_secpN; omega)] at hlow
  exact Nat.not_le_of_gt (C02_malleated_s_is_high s h0 hs) hlow

theorem C02_malleation_rejected (S : Scheme) (h d r : Bytes) (s : Nat) (v : UInt8) (pub' : Bytes)
    (lowS : ∀ pub hh rs, S.verifyLowS pub hh rs = true → fromBE (rs.drop 32) ≤ C02_halfN)
    (hr : r.length = 32) (h0 : 0 < s) (hs : s ≤ C02_halfN)
    (hv : ¬ (27 ≤ v.toNat ∧ v.toNat ≤ 28))
    (hrec : S.recover h (r ++ toBE 32 (C02_secpN - s) ++ [v]) = some pub') (a : Bytes) :
    eipVerify S h d (r ++ toBE 32 (C02_secpN - s) ++ [v]) ≠ .ok a :=
  C02_high_s_rejected S h d r s v lowS hr h0 hs a

/-! ### Completeness: what the node signs, it accepts, with its own address -/

/-- contract of the key signer with respect to the verification primitives -/
structure C02_SignerLaws (S : Scheme) (pubKey : Bytes) : Prop where
  form : ∀ h sig, S.sign h = some sig → ∃ rs v, sig = rs ++ [v] ∧ rs.length = 64 ∧ (v = 0 ∨ v = 1)
  recovers : ∀ h sig, S.sign h = some sig → S.recover h sig = some pubKey
  lowS : ∀ h sig, S.sign h = some sig → S.verifyLowS pubKey h (sig.take 64) = true

theorem C02_emitV_concat (rs : Bytes) (v : UInt8) (hv : v = 0 ∨ v = 1) : emitV (rs ++ [v]) = rs ++ [v + 27] := by
  simp only [emitV, List.getLast?_concat, hv, if_true, List.dropLast_concat]

theorem C02_normalise_emit (rs : Bytes) (v : UInt8) (hv : v = 0 ∨ v = 1) :
    normaliseV (emitV (rs ++ [v])) = rs ++ [v] := by
  rw [C02_emitV_concat rs v hv]
  rcases hv with rfl | rfl <;> simp [normaliseV]

theorem C02_signWith_ok {S : Scheme} {pubKey : Bytes} (L : C02_SignerLaws S pubKey) {h sig' : Bytes}
    (hs : signWith S h = .ok sig') : eipVerify S h h sig' = .ok (S.addrOf pubKey) := by
  unfold signWith at hs
  split at hs
  · cases hs
  next sig hsig =>
    cases hs
    obtain ⟨rs, v, rfl, hl, hv⟩ := L.form _ _ hsig
    rw [C02_eipVerify_ok_iff, C02_normalise_emit rs v hv, C02_emitV_concat rs v hv]
    exact ⟨rfl, by rw [List.length_append, hl]; rfl, pubKey, L.recovers _ _ hsig, L.lowS _ _ hsig, rfl⟩

theorem C02_own_bid_verifies (H : Bytes → Bytes) (S : Scheme) (pubKey : Bytes) (L : C02_SignerLaws S pubKey)
    (tx amt : Bytes) (blk st en : Int) (b : Bid)
    (h : constructSignedBid H S tx amt blk st en = .ok b) :
    verifyBid H S b = .ok (S.addrOf pubKey) := by
  unfold constructSignedBid at h
  split at h
  · cases h
  · simp only [Outcome.bind_eq_ok_iff] at h
    obtain ⟨hash, hhash, sig, hsig, hb⟩ := h
    cases hb
    -- the hash does not depend on digest / signature, by definition
    have hh : getBidHash H ⟨tx, amt, blk, st, en, some hash, some sig⟩ = .ok hash := hhash
    simp only [verifyBid, hh, Outcome.bind]
    exact C02_signWith_ok L hsig

theorem C02_own_commitment_verifies (H : Bytes → Bytes) (S : Scheme) (pubKey : Bytes) (L : C02_SignerLaws S pubKey)
    (b : Bid) (c : Commitment) (h : constructCommitment H S b = .ok c) :
    verifyCommitment H S c = .ok (S.addrOf pubKey) := by
  unfold constructCommitment at h
  simp only [Outcome.bind_eq_ok_iff] at h
  obtain ⟨ba, hba, hash, hhash, sig, hsig, hc⟩ := h
  cases hc
  simp only [verifyCommitment, hba, hhash, Outcome.bind]
  exact C02_signWith_ok L hsig

/-! ### The executable spec used to judge the implementation is the proved characterisation -/

theorem C02_spec_bidAccept_iff (H : Bytes → Bytes) (S : Scheme) (b : Bid) (a : Bytes) :
    Spec.C02.bidAccept H S b a = true ↔ verifyBid H S b = .ok a := by
  rw [C02_verifyBid_ok_iff]
  unfold Spec.C02.bidAccept Spec.C02.sigAccept
  split
  next d s hd hs =>
    simp only [hd, hs, Option.some.injEq, exists_and_left, exists_eq_left', Bool.and_eq_true, beq_iff_eq]
    cases S.recover d (normaliseV s) <;> simp
  next hn => exact iff_of_false nofun fun ⟨d, s, hd, hs, _⟩ => hn d s hd hs
