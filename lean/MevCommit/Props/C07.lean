import MevCommit.Model.Wiring
import MevCommit.Model.Abi
import MevCommit.Lemmas.BE
open MevCommit MevCommit.Abi

/- `C07_store_before_write`, the ordering half of the property, is a fact about `handleBid` and stands in Props/C01. -/

theorem C07_word_length (n : Nat) : (word n).length = 32 := toBE_length 32 n

theorem C07_dyn_length (b : Bytes) : (dyn b).length = dynSize b := by
  simp only [dyn, dynSize, List.length_append, C07_word_length, List.length_replicate]

theorem C07_fromBE_word {n : Nat} (hn : n < 2 ^ 256) : fromBE (word n) = n :=
  fromBE_toBE32 hn

theorem C07_wordAt_zero {n : Nat} (rest : Bytes) (hn : n < 2 ^ 256) : wordAt (word n ++ rest) 0 = n := by
  rw [wordAt, List.drop_zero, List.take_left' (C07_word_length n), C07_fromBE_word hn]

theorem C07_wordAt_succ (m i : Nat) (rest : Bytes) : wordAt (word m ++ rest) (i + 1) = wordAt rest i := by
  rw [wordAt, wordAt, Nat.mul_succ, Nat.add_comm, ← List.drop_drop, List.drop_left' (C07_word_length m)]

theorem C07_dynAt (pre post b : Bytes) (off : Nat) (hpre : pre.length = off) (hb : b.length < 2 ^ 256) :
    dynAt (pre ++ dyn b ++ post) off = some b := by
  have hlen : (pre ++ dyn b ++ post).length = off + dynSize b + post.length := by
    rw [List.length_append, List.length_append, C07_dyn_length, hpre]
  unfold dynSize at hlen
  have hw : ((pre ++ dyn b ++ post).drop off).take 32 = word b.length := by
    rw [List.append_assoc, List.drop_left' hpre, dyn, List.append_assoc, List.append_assoc,
      List.take_left' (C07_word_length _)]
  have hd : ((pre ++ dyn b ++ post).drop (off + 32)).take b.length = b := by
    rw [List.append_assoc, ← List.drop_drop, List.drop_left' hpre, dyn, List.append_assoc, List.append_assoc,
      List.drop_left' (C07_word_length _), List.take_left' rfl]
  simp only [dynAt, hw, C07_fromBE_word hb, hd]
  rw [if_neg (by omega), if_neg (by omega)]

theorem C07_length_lt_of_dynSize {b : Bytes} {off M : Nat} (h : off + dynSize b < M) : b.length < M := by
  unfold dynSize at h; omega

/-- The round trip holds whenever the four numbers fit a word and the encoding is shorter than
2^256 bytes, so that every offset and length word fits too; bytes after the encoding are ignored. -/
theorem C07_decode_encode_append (a : Args) (post : Bytes)
    (h1 : a.bid < 2 ^ 256) (h2 : a.blockNumber < 2 ^ 256) (h3 : a.decayStart < 2 ^ 256) (h4 : a.decayEnd < 2 ^ 256)
    (hsz : headSize + dynSize a.txnHash + dynSize a.bidSignature + dynSize a.commitmentSignature < 2 ^ 256) :
    decodeArgs (encodeArgs a ++ post) = some a := by
  obtain ⟨bid, blk, tx, ds, de, bs, cs⟩ := a
  simp only at h1 h2 h3 h4 hsz
  have ho3 : headSize + dynSize tx + dynSize bs < 2 ^ 256 := Nat.lt_of_add_right_lt hsz
  have ho2 : headSize + dynSize tx < 2 ^ 256 := Nat.lt_of_add_right_lt ho3
  have ho1 : headSize < 2 ^ 256 := Nat.lt_of_add_right_lt ho2
  -- `rw`, not `unfold`: the congruence `unfold encodeArgs` builds below the `match` of `decodeArgs`
  -- makes the kernel evaluate the discriminants, down to `toBE 32 bid` (5M heartbeats)
  rw [decodeArgs, encodeArgs]
  rw [if_neg (by simp only [List.length_append, C07_word_length, headSize]; omega)]
  -- the head words: walk down the right-nested buffer
  simp only [List.append_assoc, C07_wordAt_succ, C07_wordAt_zero, h1, h2, h3, h4, ho1, ho2, ho3]
  -- the dynamic values, last first.  Nested to the left the buffer is `(((head ++ dyn tx) ++ dyn bs) ++ dyn cs) ++ post`:
  -- all that stands to the left of a value is its `pre`, and one re-association exposes the next.  The `match` on
  -- the three `some`s then reduces, which closes the main goal; left are the three `pre.length = offset`.
  simp only [← List.append_assoc]
  rw [C07_dynAt _ post cs (headSize + dynSize tx + dynSize bs) ?_ (C07_length_lt_of_dynSize hsz),
    List.append_assoc _ (dyn cs),
    C07_dynAt _ _ bs (headSize + dynSize tx) ?_ (C07_length_lt_of_dynSize ho3),
    List.append_assoc _ (dyn bs),
    C07_dynAt _ _ tx headSize ?_ (C07_length_lt_of_dynSize ho2)]
  all_goals simp only [List.length_append, C07_word_length, C07_dyn_length, headSize]
  all_goals omega

/-- **ABI round trip** for all arguments: unbounded strings / byte strings, all 64-bit numbers. -/
theorem C07_decode_encode (a : Args)
    (h1 : a.bid < 2 ^ 64) (h2 : a.blockNumber < 2 ^ 64) (h3 : a.decayStart < 2 ^ 64) (h4 : a.decayEnd < 2 ^ 64)
    (hl : a.txnHash.length + a.bidSignature.length + a.commitmentSignature.length < 2 ^ 200) :
    decodeArgs (encodeArgs a) = some a := by
  have up {n : Nat} (h : n < 2 ^ 64) : n < 2 ^ 256 := by omega
  have hdyn (b : Bytes) : dynSize b < b.length + 64 := by unfold dynSize padLen; omega
  have hsum := Nat.add_lt_add (Nat.add_lt_add (hdyn a.txnHash) (hdyn a.bidSignature)) (hdyn a.commitmentSignature)
  have := C07_decode_encode_append a [] (up h1) (up h2) (up h3) (up h4) (by unfold headSize; omega)
  rwa [List.append_nil] at this

theorem C07_call_roundtrip (sel : Bytes) (hs : sel.length = 4) (a : Args)
    (h1 : a.bid < 2 ^ 64) (h2 : a.blockNumber < 2 ^ 64) (h3 : a.decayStart < 2 ^ 64) (h4 : a.decayEnd < 2 ^ 64)
    (hl : a.txnHash.length + a.bidSignature.length + a.commitmentSignature.length < 2 ^ 200) :
    decodeCall (encodeCall sel a) = some (sel, a) := by
  unfold decodeCall encodeCall
  rw [if_neg (by simp [hs]), List.drop_left' hs, List.take_left' hs, C07_decode_encode a h1 h2 h3 h4 hl]
  rfl

theorem C07_low64_lt (x : Int) : low64 x < 2 ^ 64 :=
  (Int.toNat_lt' (by decide)).2 (Int.emod_lt_of_pos x (by decide))

theorem C07_low64_id (x : Int) (h0 : 0 ≤ x) (h : x < 2 ^ 64) : low64 x = x.toNat := by
  unfold low64
  rw [Int.emod_eq_of_lt h0 h]

/-- **The settlement transaction carries exactly the commitment's fields**: for every bid in the
validated domain (amount in [1,2^64), block number and timestamps in [1,2^63)), decoding the
calldata built from the commitment yields its amount, block number, transaction-hash string,
decay window, bid signature and commitment signature, field by field. -/
theorem C07_calldata_is_commitment (sel : Bytes) (hs : sel.length = 4)
    (amount blk ds de : Int) (tx bidSig commitSig : Bytes)
    (ha : 1 ≤ amount ∧ amount < 2 ^ 64) (hb : 1 ≤ blk ∧ blk < 2 ^ 63)
    (hds : 1 ≤ ds ∧ ds < 2 ^ 63) (hde : 1 ≤ de ∧ de < 2 ^ 63)
    (hl : tx.length + bidSig.length + commitSig.length < 2 ^ 200) :
    decodeCall (encodeCall sel (argsOfCommitment amount blk ds de tx bidSig commitSig)) =
      some (sel, ⟨amount.toNat, blk.toNat, tx, ds.toNat, de.toNat, bidSig, commitSig⟩) := by
  have lo {x : Int} (h : 1 ≤ x) : 0 ≤ x := by omega
  have hi {x : Int} (h : x < 2 ^ 63) : x < 2 ^ 64 := by omega
  rw [C07_call_roundtrip sel hs (argsOfCommitment amount blk ds de tx bidSig commitSig)
    (C07_low64_lt _) (C07_low64_lt _) (C07_low64_lt _) (C07_low64_lt _) hl]
  unfold argsOfCommitment
  rw [C07_low64_id amount (lo ha.1) ha.2, C07_low64_id blk (lo hb.1) (hi hb.2),
    C07_low64_id ds (lo hds.1) (hi hds.2), C07_low64_id de (lo hde.1) (hi hde.2)]

/-! ### Whole-node wiring (pkg/node.NewNode), tied by the `nodewire` harness -/
section Wiring
open MevCommit.Wiring

/-- as NewNode wires the node, every commitment transaction goes to the configured commitment
store, whatever the chain says about stake and allowance -/
theorem C07_wire_commit_tx_at_configured_store (wd : World) :
    ∀ t ∈ (scenario nodeWire wd).commitTxsAt, t = Target.preconf := by
  intro t ht
  dsimp only [scenario] at ht
  split at ht
  · exact List.eq_of_mem_singleton ht
  · cases ht

/-- for every wiring: as many commitments reach the bidder as commitment transactions were sent -/
theorem C07_wire_commitments_eq_txs (w : Wire) (wd : World) :
    (scenario w wd).commitments = (scenario w wd).commitTxsAt.length := by
  simp only [scenario]
  split <;> rfl

/-- the node yields a commitment exactly when the provider is staked and the bidder funded at the
configured registries -/
theorem C07_wire_commitment_iff (wd : World) :
    (scenario nodeWire wd).commitments = 1 ↔
      (wd.staked = true ∧ wd.allowed = true ∧ wd.wellFormed = true ∧ wd.engineAccepts = true) := by
  obtain ⟨s, a, f, e⟩ := wd
  cases s <;> cases a <;> cases f <;> cases e <;> decide

end Wiring
