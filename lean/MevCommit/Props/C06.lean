import MevCommit.Model.Hostile
import MevCommit.Props.C02
import MevCommit.Props.C14
import MevCommit.Model.Framing
open MevCommit MevCommit.Hostile

/-- `signer.Verify` never panics: the slice is reached only after recovery succeeded, and
recovery succeeds only for 65-byte signatures -/
theorem C06_signerVerify_no_panic (recover : Bytes → Bytes → Option Bytes) (verify : Bytes → Bytes → Bytes → Bool)
    (recoverLen : ∀ h s pub, recover h s = some pub → s.length = 65) (hash sig : Bytes) (p : String) :
    signerVerify recover verify hash sig ≠ .panic p := by
  unfold signerVerify
  cases hr : recover hash sig with
  | none => simp
  | some pub => simp [sliceTo, recoverLen hash sig pub hr, Outcome.bind]

/-- without the recovery guard the slice would panic on an empty signature (the guard is needed) -/
theorem C06_slice_needs_guard : sliceTo [] (((([] : Bytes).length : Int)) - 1) = .panic "slice bounds out of range" :=
  rfl

/-- address derivation from a peer id never panics: a successfully decompressed key has 65 bytes -/
theorem C06_addrFromCompressed_no_panic (decompress : Bytes → Option Bytes) (H : Bytes → Bytes)
    (decLen : ∀ raw pub, decompress raw = some pub → pub.length = 65) (raw : Bytes) (p : String) :
    addrFromCompressed decompress H raw ≠ .panic p := by
  unfold addrFromCompressed
  cases hd : decompress raw with
  | none => simp
  | some pub => simp [sliceFrom, decLen raw pub hd, Outcome.bind]

/-- `BytesToAddress` is total and always yields 20 bytes, whatever length a gossiped address has -/
theorem C06_bytesToAddress_length (b : Bytes) : (bytesToAddress b).length = 20 := by
  simp only [bytesToAddress, List.length_append, List.length_replicate]
  refine Nat.sub_add_cancel ?_
  split
  next h => exact Nat.le_of_eq (List.length_drop.trans (Nat.sub_sub_self (Nat.le_of_lt h)))
  next h => exact Nat.le_of_not_lt h

/-- bid / commitment verification never panics, whatever a peer sends (from C02) -/
theorem C06_verifyBid_no_panic (H : Bytes → Bytes) (S : Signer.Scheme) (b : Signer.Bid) (p : String) :
    Signer.verifyBid H S b ≠ .panic p := C02_verifyBid_no_panic H S b p

theorem C06_verifyCommitment_no_panic (H : Bytes → Bytes) (S : Signer.Scheme) (c : Signer.Commitment) (p : String) :
    Signer.verifyCommitment H S c ≠ .panic p := C02_verifyCommitment_no_panic H S c p

/-- the registry's unguarded dereference is unreachable (from C14) -/
theorem C06_registry_no_panic (addrOf : Nat → Nat) (hinj : ∀ a b, addrOf a = addrOf b → a = b)
    (ops : List PeerRegistry.Op) (hwf : ∀ op ∈ ops, C14_WF addrOf op) :
    (PeerRegistry.final PeerRegistry.init ops).panicked = false := C14_never_panics addrOf hinj ops hwf

/-- frame reading is total: every byte string yields a (possibly empty) list of read results -/
theorem C06_readAll_total (fuel : Nat) (s : Bytes) : ∃ rs, Framing.readAll fuel s = rs := ⟨_, rfl⟩
