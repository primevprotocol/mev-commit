import MevCommit.Model.ProviderSvc
import MevCommit.Lemmas.List
open MevCommit MevCommit.ProviderSvc

section
variable {α} {f : Nat → Option α} {k i : Nat} {a : α}

theorem C12_upd_eq_some {v : Option α} :
    upd f k v i = some a ↔ i = k ∧ v = some a ∨ i ≠ k ∧ f i = some a := by
  unfold upd
  split <;> simp [*]

theorem C12_upd_none_eq_some (h : upd f k none i = some a) : i ≠ k ∧ f i = some a :=
  (C12_upd_eq_some.1 h).elim (fun h => nomatch h.2) id

end

/-- ids of bids that received a status -/
def C12_deliveredIds (s : St) : List Nat := s.delivered.map (·.1)

structure C12_Inv (s : St) : Prop where
  /-- a registered id is below the counter and its recorded digest is the key it sits under -/
  pend : ∀ d id, s.pending d = some id → id < s.nextId ∧ s.digestOf id = some d
  /-- recorded digests only for allocated ids -/
  dig : ∀ id d, s.digestOf id = some d → id < s.nextId
  /-- a bid that was answered is no longer registered -/
  done : ∀ id, id ∈ C12_deliveredIds s → ∀ d, s.pending d ≠ some id
  /-- at most once -/
  nodup : (C12_deliveredIds s).Nodup
  /-- only allocated ids are answered -/
  alloc : ∀ id, id ∈ C12_deliveredIds s → id < s.nextId

theorem C12_inv_init : C12_Inv init :=
  ⟨nofun, nofun, nofun, .nil, nofun⟩

variable {s : St}

theorem C12_Inv.register (h : C12_Inv s) (d : Nat) :
    C12_Inv { s with pending := upd s.pending d (some s.nextId), digestOf := upd s.digestOf s.nextId (some d),
                     nextId := s.nextId + 1 } where
  pend d' id hp := by
    rcases C12_upd_eq_some.1 hp with ⟨rfl, ⟨rfl⟩⟩ | ⟨_, hp⟩
    · exact ⟨Nat.lt_succ_self _, C12_upd_eq_some.2 (.inl ⟨rfl, rfl⟩)⟩
    · have hid := h.pend d' id hp
      exact ⟨Nat.lt_succ_of_lt hid.1, C12_upd_eq_some.2 (.inr ⟨Nat.ne_of_lt hid.1, hid.2⟩)⟩
  dig id d' hdg := by
    rcases C12_upd_eq_some.1 hdg with ⟨rfl, _⟩ | ⟨_, hdg⟩
    · exact Nat.lt_succ_self _
    · exact Nat.lt_succ_of_lt (h.dig id d' hdg)
  done id hid d' hp := by
    rcases C12_upd_eq_some.1 hp with ⟨_, ⟨rfl⟩⟩ | ⟨_, hp⟩
    · exact Nat.lt_irrefl _ (h.alloc _ hid)
    · exact h.done id hid d' hp
  nodup := h.nodup
  alloc id hid := Nat.lt_succ_of_lt (h.alloc id hid)

theorem C12_Inv.frame (h : C12_Inv s) (es : List Nat) (se : Nat) : C12_Inv { s with engineSaw := es, streamEnds := se } :=
  { h with }

theorem C12_Inv.delete (h : C12_Inv s) (d : Nat) : C12_Inv { s with pending := upd s.pending d none } :=
  { h with
    pend := fun d' id e => h.pend d' id (C12_upd_none_eq_some e).2
    done := fun id hid d' e => h.done id hid d' (C12_upd_none_eq_some e).2 }

/-- a bid sits under its own digest only, so deleting that key leaves no entry of it -/
theorem C12_Inv.erased (h : C12_Inv s) {id d : Nat} (hd : s.digestOf id = some d) (d' : Nat) : upd s.pending d none d' ≠ some id := by
  intro e
  have ⟨hne, hp⟩ := C12_upd_none_eq_some e
  exact hne (Option.some.inj (hd.symm.trans (h.pend d' id hp).2)).symm

theorem C12_Inv.abandon (h : C12_Inv s) (id : Nat) :
    C12_Inv (step s (.abandon id)).1 ∧ ∀ d, (step s (.abandon id)).1.pending d ≠ some id := by
  simp only [step]
  cases hdg : s.digestOf id with
  | none => exact ⟨h, fun d hp => nomatch hdg.symm.trans (h.pend d id hp).2⟩
  | some d => exact ⟨h.delete d, h.erased hdg⟩

theorem C12_Inv.answer (h : C12_Inv s) {d id : Nat} (hp : s.pending d = some id) (st : Nat) :
    C12_Inv { s with pending := upd s.pending d none, delivered := s.delivered ++ [(id, st)] } := by
  have hid := h.pend d id hp
  refine { h.delete d with done := ?_, nodup := ?_, alloc := ?_ }
  all_goals simp only [C12_deliveredIds, List.map_append]
  · exact List.forall_mem_append.2 ⟨(h.delete d).done, List.forall_mem_singleton.2 (h.erased hid.2)⟩
  · exact List.nodup_concat (fun hin => h.done id hin d hp) h.nodup
  · exact List.forall_mem_append.2 ⟨h.alloc, List.forall_mem_singleton.2 hid.1⟩

theorem C12_step_inv (s : St) (op : Op) (h : C12_Inv s) : C12_Inv (step s op).1 := by
  cases op with
  | handoff id => exact h.frame _ _
  | submit d valid =>
    cases valid with
    | false => exact h
    | true => exact h.register d
  | abandon id => exact (h.abandon id).1
  | decision d st =>
    simp only [step]
    cases validStatus st with
    | false => exact h.frame _ _
    | true =>
      cases hp : s.pending d with
      | none => exact h
      | some id => exact h.answer hp st

theorem C12_reachable (ops : List Op) (s : St) (h : C12_Inv s) : C12_Inv (final s ops) := by
  induction ops generalizing s with
  | nil => exact h
  | cons op ops ih => exact ih _ (C12_step_inv s op h)

/-- **At most once**: after any interleaving of submissions (equal digests allowed), hand-offs,
abandonments and decisions (valid, duplicate, unknown, out of range), no bid has received more
than one status. -/
theorem C12_at_most_once (ops : List Op) : (C12_deliveredIds (final init ops)).Nodup :=
  (C12_reachable ops init C12_inv_init).nodup

/-- **Only the named pending bid**: a decision is delivered exactly to the bid registered under
the digest it names, with the status it carries; nothing else changes. -/
theorem C12_decision_reaches_named_bid (s : St) (d st id : Nat) (hv : validStatus st = true)
    (hp : s.pending d = some id) :
    (step s (.decision d st)).2 = .delivered id ∧
    (step s (.decision d st)).1.delivered = s.delivered ++ [(id, st)] ∧
    (step s (.decision d st)).1.pending d = none := by
  simp [step, hv, hp, upd]

/-- **Unknown, answered or abandoned digests are ignored**: state unchanged, stream continues. -/
theorem C12_unknown_ignored (s : St) (d st : Nat) (hv : validStatus st = true) (hp : s.pending d = none) :
    step s (.decision d st) = (s, .ignored) := by
  simp [step, hv, hp]

/-- a second decision for the same digest right after the first one is ignored -/
theorem C12_duplicate_ignored (s : St) (d st st' : Nat) (hv : validStatus st = true) (hv' : validStatus st' = true) :
    (step (step s (.decision d st)).1 (.decision d st')).2 = .ignored := by
  cases hp : s.pending d <;> simp [step, hv, hv', hp, upd]

/-- **Abandonment leaves no entry of that bid** (in any reachable state). -/
theorem C12_abandon_leaves_nothing (ops : List Op) (id : Nat) :
    ∀ d, (step (final init ops) (.abandon id)).1.pending d ≠ some id :=
  ((C12_reachable ops init C12_inv_init).abandon id).2

/-- an invalid bid never reaches the engine's table -/
theorem C12_invalid_not_registered (s : St) (d : Nat) : step s (.submit d false) = (s, .rejected) :=
  rfl

/-- non-vacuity: equal digests, duplicate and unknown decisions, an out-of-range status -/
example : run init [.submit 5 true, .submit 5 true, .handoff 0, .decision 5 1, .decision 5 2, .decision 9 1,
    .decision 5 0, .submit 6 true, .abandon 2, .decision 6 1] =
    [.registered 0, .registered 1, .ok, .delivered 1, .ignored, .ignored, .streamEnded, .registered 2, .ok, .ignored] := by
  decide
