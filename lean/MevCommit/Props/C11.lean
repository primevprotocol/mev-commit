import MevCommit.Model.Wiring
import MevCommit.Model.Registry
import MevCommit.Spec.C11
import MevCommit.Lemmas.BE
open MevCommit MevCommit.Registry

/-- **Fail closed**: yes ⇔ both reads decoded ∧ amount ≥ minimum -/
theorem C11_check_iff (minAns amtAns : CallAns) :
    (check minAns amtAns).answer = true ↔
      ∃ mn amt, read minAns = some mn ∧ read amtAns = some amt ∧ mn ≤ amt := by
  unfold check
  cases read minAns with
  | none => simp
  | some mn => cases read amtAns <;> simp

theorem C11_any_failure_is_no (minAns amtAns : CallAns)
    (h : read minAns = none ∨ read amtAns = none) : (check minAns amtAns).answer = false := by
  refine Bool.eq_false_iff.mpr fun hyes => ?_
  obtain ⟨mn, amt, h1, h2, _⟩ := (C11_check_iff minAns amtAns).mp hyes
  rcases h with h | h
  · cases h.symm.trans h1
  · cases h.symm.trans h2

theorem C11_check_conforms (minAns amtAns : CallAns) :
    Spec.C11.checkOk minAns amtAns (check minAns amtAns).answer = true := by
  unfold Spec.C11.checkOk check
  cases read minAns <;> cases read amtAns <;> simp

/-- a 32-byte big-endian return word (followed by any whole number of further words) decodes
to its value: for all amounts below 2^256 the check compares the on-chain numbers themselves -/
theorem C11_word_roundtrip (n : Nat) (h : n < 2 ^ 256) (extra : Bytes) (he : extra.length % 32 = 0) :
    Registry.read (.bytes (toBE 32 n ++ extra)) = some n := by
  have hl : ¬ ((toBE 32 n ++ extra).length = 0 ∨ (toBE 32 n ++ extra).length % 32 ≠ 0) := by
    simp [he]
  rw [Registry.read, decodeWord, if_neg hl, List.take_left' (toBE_length ..),
    fromBE_toBE32 h]

theorem C11_check_values (mn amt : Nat) (h1 : mn < 2 ^ 256) (h2 : amt < 2 ^ 256) :
    (check (.bytes (toBE 32 mn)) (.bytes (toBE 32 amt))).answer = decide (mn ≤ amt) := by
  have a := C11_word_roundtrip mn h1 [] rfl
  have b := C11_word_roundtrip amt h2 [] rfl
  rw [List.append_nil] at a b
  rw [check, a, b]

/-- a malformed return value (empty, or not a whole number of 32-byte words) counts as a failure -/
theorem C11_malformed_return_is_no (b : Bytes) (h : b.length = 0 ∨ b.length % 32 ≠ 0) (other : CallAns) :
    (check (.bytes b) other).answer = false ∧ (check other (.bytes b)).answer = false := by
  have : Registry.read (.bytes b) = none := if_pos h
  exact ⟨C11_any_failure_is_no _ _ (Or.inl this), C11_any_failure_is_no _ _ (Or.inr this)⟩

theorem C11_register_eq (e : StakeEnv) :
    register e = ⟨e.sendOk && e.receipt == .status 1, [⟨true, e.amount, true⟩], e.sendOk⟩ := by
  unfold register
  cases e.sendOk
  · rfl
  · cases e.receipt with
    | waitErr => rfl
    | status s => by_cases h : s = 1 <;> simp [h]

/-- **Staking reports the on-chain outcome** -/
theorem C11_register_ok_iff (e : StakeEnv) :
    (register e).ok = true ↔ e.sendOk = true ∧ e.receipt = .status 1 := by
  simp [C11_register_eq]

theorem C11_register_conforms (e : StakeEnv) : Spec.C11.stakeOk e (register e) = true := by
  simp [Spec.C11.stakeOk, C11_register_eq]

theorem C11_request_exact (e : StakeEnv) :
    (register e).requests = [⟨true, e.amount, true⟩] := by
  rw [C11_register_eq]

example : (check (.bytes (toBE 32 5)) (.bytes (toBE 32 (2^256 - 1)))).answer = true := by
  rw [C11_check_values 5 (2^256-1) (by decide) (by omega)]; decide

/-! ### Whole-node wiring (pkg/node.NewNode), tied by the `nodewire` harness -/
section Wiring
open MevCommit.Wiring

/-- as NewNode wires the node, stake is read at the configured provider registry and allowance at
the configured bidder registry, and the stake / prepay operations pay those same contracts -/
theorem C11_wire_reads_and_ops_at_configured (wd : World) :
    (scenario nodeWire wd).stakeReadsAt = [Target.providerRegistry] ∧
    (∀ t ∈ (scenario nodeWire wd).allowReadsAt, t = Target.bidderRegistry) ∧
    nodeWire.stakeOp = Target.providerRegistry ∧ nodeWire.prepayOp = Target.bidderRegistry := by
  refine ⟨rfl, fun t ht => ?_, rfl, rfl⟩
  simp only [scenario] at ht
  split at ht
  · exact List.mem_singleton.mp ht
  · cases ht

/-- fail closed at the level of the whole node: a node whose stake or allowance reads were wired
to any other contract never produces a commitment, whatever the chain holds -/
theorem C11_wire_miswired_reads_fail_closed (w : Wire) (wd : World)
    (h : w.handshakeStake ≠ Target.providerRegistry ∨ w.bidAllowance ≠ Target.bidderRegistry) :
    (scenario w wd).commitments = 0 ∧ (scenario w wd).commitTxsAt = [] := by
  rcases h with h | h <;> simp [scenario, stakeCheck, allowanceCheck, h]

/-- a bootnode built by NewNode admits a provider iff the configured provider registry confirms
its stake, and blocks it otherwise; under any other wiring of the handshake's registry nobody is
admitted -/
theorem C11_wire_bootnode (w : Wire) (staked : Bool) :
    ((bootScenario nodeWire staked).admitted = staked ∧ (bootScenario nodeWire staked).blocked = !staked ∧
      (bootScenario nodeWire staked).stakeReadsAt = [Target.providerRegistry]) ∧
    (w.handshakeStake ≠ Target.providerRegistry → (bootScenario w staked).admitted = false) := by
  constructor
  · cases staked <;> decide
  · intro h; simp [bootScenario, h]

/-- the stake / prepay operation of the node reports success only for a transaction that was mined
with a success status -/
theorem C11_wire_op_success_iff (f : TxFate) : opReportsSuccess f = true ↔ f = TxFate.minedOk := by
  cases f <;> simp [opReportsSuccess]

/-- non-vacuity: the four worlds under the real wiring -/
example : (scenario nodeWire { staked := true, allowed := true }).commitments = 1 ∧
    (scenario nodeWire { staked := true, allowed := false }).commitments = 0 ∧
    (scenario nodeWire { staked := false, allowed := true }).allowReadsAt = [] ∧
    (scenario nodeWire { staked := true, allowed := false }).allowReadsAt = [Target.bidderRegistry] := by
  decide

end Wiring
