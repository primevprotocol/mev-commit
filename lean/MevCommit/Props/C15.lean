import MevCommit.Model.Topology
import MevCommit.Spec.C15
open MevCommit MevCommit.Topology MevCommit.Spec.C15

def C15_has (l : List Peer) (a : Nat) : Bool := l.any (fun q => q.addr = a)

theorem C15_has_erase (l : List Peer) (x a : Nat) :
    C15_has (erase l x) a = (!decide (x = a) && C15_has l a) := by
  unfold C15_has erase
  rw [List.any_filter, List.and_any_distrib_left]
  congr 1
  funext q
  -- an entry at `a` survives the filter iff `x ≠ a`; any other entry counts on neither side
  by_cases h : q.addr = a <;> simp [h, eq_comm]

theorem C15_has_insert (l : List Peer) (p : Peer) (a : Nat) :
    C15_has (Topology.insert l p) a = (decide (p.addr = a) || C15_has l a) := by
  -- `insert l p` is `p :: erase l p.addr`
  show (decide (p.addr = a) || C15_has (erase l p.addr) a) = _
  rw [C15_has_erase]
  cases decide (p.addr = a) <;> rfl

/-- membership bit of (address, role) in a view; roles other than provider/bidder are never in -/
def C15_member (v : View) (a : Nat) (r : Int) : Bool :=
  if r = roleProvider then C15_has v.providers a
  else if r = roleBidder then C15_has v.bidders a
  else false

theorem C15_roles_ne : roleBidder ≠ roleProvider := by decide

theorem C15_isConnected_member (v : View) (a : Nat) :
    isConnected v a = (C15_member v a roleProvider || C15_member v a roleBidder) := rfl

/- The role of `p` says which list `add` and `remove` change, `r` which list `C15_member` reads: `simp`
evaluates each combination. The right-hand sides are the two branches of the step of `inViewF`. -/

theorem C15_member_add {v : View} {p : Peer} {a : Nat} {r : Int}
    (hr : r = roleProvider ∨ r = roleBidder) :
    C15_member (add v p) a r = if p.addr = a ∧ p.role = r then true else C15_member v a r := by
  by_cases h1 : p.role = roleProvider
  · rcases hr with rfl | rfl <;> simp [C15_member, add, h1, C15_roles_ne, C15_roles_ne.symm, C15_has_insert]
  · by_cases h2 : p.role = roleBidder
    · rcases hr with rfl | rfl <;> simp [C15_member, add, h2, C15_roles_ne, C15_has_insert]
    · rcases hr with rfl | rfl <;> simp [C15_member, add, h1, h2]

theorem C15_member_remove {v : View} {p : Peer} {a : Nat} {r : Int}
    (hr : r = roleProvider ∨ r = roleBidder) :
    C15_member (remove v p) a r = if p.addr = a ∧ p.role = r then false else C15_member v a r := by
  by_cases h1 : p.role = roleProvider
  · rcases hr with rfl | rfl <;> simp [C15_member, remove, h1, C15_roles_ne, C15_roles_ne.symm, C15_has_erase]
  · by_cases h2 : p.role = roleBidder
    · rcases hr with rfl | rfl <;> simp [C15_member, remove, h2, C15_roles_ne, C15_has_erase]
    · rcases hr with rfl | rfl <;> simp [C15_member, remove, h1, h2]

def C15_applyAtom (v : View) : Atom → View
  | .add p => add v p
  | .del p => remove v p

theorem C15_member_atoms {v : View} {as : List Atom} {a : Nat} {r : Int}
    (hr : r = roleProvider ∨ r = roleBidder) :
    C15_member (as.foldl C15_applyAtom v) a r = inViewF (C15_member v a r) as a r := by
  -- `C15_member · a r` turns each `C15_applyAtom` into the step function of `inViewF`
  refine (List.foldl_hom (C15_member · a r) fun v x => ?_).symm
  cases x with
  | add p => exact (C15_member_add hr).symm
  | del p => exact (C15_member_remove hr).symm

theorem C15_foldl_add (v : View) (ps : List Peer) :
    (ps.map Atom.add).foldl C15_applyAtom v = ps.foldl add v :=
  List.foldl_map

theorem C15_step_atoms (v : View) (e : Ev) : (step v e).1 = (atomsOf v e).foldl C15_applyAtom v := by
  cases e with
  | connected | disconnected => rfl
  | addPeers | gossip => exact (C15_foldl_add ..).symm

/-- all atoms of a history, each event's atoms computed in the view it happened in -/
def C15_historyAtoms : View → List Ev → List Atom
  | _, [] => []
  | v, e :: es => atomsOf v e ++ C15_historyAtoms (step v e).1 es

def C15_finalView : View → List Ev → View
  | v, [] => v
  | v, e :: es => C15_finalView (step v e).1 es

/-- exactness from any initial view `v`: its own bit is what the history's atoms then update -/
theorem C15_view_exact_from (v : View) (es : List Ev) (a : Nat) (r : Int)
    (hr : r = roleProvider ∨ r = roleBidder) :
    C15_member (C15_finalView v es) a r = inViewF (C15_member v a r) (C15_historyAtoms v es) a r := by
  induction es generalizing v with
  | nil => rfl
  | cons e es ih =>
    rw [C15_finalView, C15_historyAtoms, ih, C15_step_atoms, C15_member_atoms hr]
    exact (List.foldl_append ..).symm

/-- **The view follows connect / add / disconnect exactly**: after any history, a peer of role
provider or bidder is reported iff the latest event about that (address, role) added it. -/
theorem C15_view_exact (es : List Ev) (a : Nat) (r : Int) (hr : r = roleProvider ∨ r = roleBidder) :
    C15_member (C15_finalView View.empty es) a r = inViewF false (C15_historyAtoms View.empty es) a r := by
  have hempty : C15_member View.empty a r = false := by simp [C15_member, View.empty, C15_has]
  rw [C15_view_exact_from View.empty es a r hr, hempty]

/-- the records `announce v p ok` sends to the newcomer `p` (its `others`) -/
def C15_others (v : View) (p : Peer) (ok : Nat → Bool) : List Nat :=
  (v.providers.filter (fun q => q.addr ≠ p.addr ∧ ok q.addr)).map (·.addr)

theorem C15_mem_others (v : View) (p : Peer) (ok : Nat → Bool) (a : Nat) :
    a ∈ C15_others v p ok ↔ (a ≠ p.addr ∧ ok a = true ∧ ∃ q ∈ v.providers, q.addr = a) := by
  simp only [C15_others, List.mem_map, List.mem_filter, decide_eq_true_eq]
  constructor
  · rintro ⟨q, ⟨hq, hqp, hok⟩, rfl⟩; exact ⟨hqp, hok, q, hq, rfl⟩
  · rintro ⟨hap, hok, q, hq, rfl⟩; exact ⟨q, ⟨hq, hap, hok⟩, rfl⟩

/-- the broadcasts of `announce v p ok`: one to the newcomer if there is anything to send it, and,
if it is a provider whose lookup succeeds, one of its own record to each known bidder -/
theorem C15_mem_announce (v : View) (p : Peer) (ok : Nat → Bool) (b : Broadcast) :
    b ∈ announce v p ok ↔
      (C15_others v p ok ≠ [] ∧ b = ⟨p, C15_others v p ok⟩) ∨
      ((p.role = roleProvider ∧ ok p.addr = true) ∧ ∃ bd ∈ v.bidders, b = ⟨bd, [p.addr]⟩) := by
  simp only [announce, C15_others, List.mem_append, List.mem_ite_nil_left, List.mem_ite_nil_right,
    List.isEmpty_iff, List.mem_singleton, List.mem_map, @eq_comm _ _ b]

/-- what the newcomer is sent: only other providers of the view whose lookup succeeded — never
its own record — and all of them; nothing at all if there is none -/
theorem C15_newcomer_gets_other_providers (v : View) (p : Peer) (ok : Nat → Bool) (b : Broadcast)
    (hb : b ∈ announce v p ok) (hto : b.to = p) (hnb : ¬ (p.role = roleProvider ∧ ok p.addr ∧ p ∈ v.bidders)) :
    b.records ≠ [] ∧ ∀ a, a ∈ b.records ↔ (a ≠ p.addr ∧ ok a = true ∧ ∃ q ∈ v.providers, q.addr = a) := by
  rcases (C15_mem_announce v p ok b).mp hb with ⟨hne, rfl⟩ | ⟨hp, bd, hbd, rfl⟩
  · exact ⟨hne, C15_mem_others v p ok⟩
  · exact absurd ⟨hp.1, hp.2, (hto : bd = p) ▸ hbd⟩ hnb

/-- the newcomer's own record goes to every known bidder iff it is a provider (whose lookup
succeeds), and to nobody else -/
theorem C15_provider_announced_to_bidders (v : View) (p : Peer) (ok : Nat → Bool) :
    (p.role = roleProvider ∧ ok p.addr = true → ∀ bd ∈ v.bidders, (⟨bd, [p.addr]⟩ : Broadcast) ∈ announce v p ok) ∧
    (¬ (p.role = roleProvider ∧ ok p.addr = true) → ∀ b ∈ announce v p ok, b.to = p) := by
  constructor
  · intro hp bd hbd
    exact (C15_mem_announce ..).mpr (.inr ⟨hp, bd, hbd, rfl⟩)
  · intro hp b hb
    rcases (C15_mem_announce ..).mp hb with ⟨_, rfl⟩ | ⟨hp', _⟩
    · rfl
    · exact absurd hp' hp

/-- no broadcast ever carries a record that is not a provider of the view or the newcomer itself
(in particular never a bidder's record) -/
theorem C15_only_provider_records (v : View) (p : Peer) (ok : Nat → Bool) (b : Broadcast)
    (hb : b ∈ announce v p ok) (a : Nat) (ha : a ∈ b.records) :
    (∃ q ∈ v.providers, q.addr = a) ∨ (a = p.addr ∧ p.role = roleProvider) := by
  rcases (C15_mem_announce v p ok b).mp hb with ⟨_, rfl⟩ | ⟨hp, bd, _, rfl⟩
  · exact .inl ((C15_mem_others v p ok a).mp ha).2.2
  · exact .inr ⟨List.mem_singleton.mp ha, hp.1⟩

/-- already-connected addresses are not dialled; everything else in the list is -/
theorem C15_gossip_dials (v : View) (es : List Entry) (a : Nat) :
    a ∈ (step v (.gossip es)).2.dialled ↔ ∃ e ∈ es, e.claimed = a ∧ isConnected v a = false := by
  simp only [step, List.mem_map, List.mem_filter, Bool.not_eq_true']
  constructor
  · rintro ⟨e, ⟨he, hc⟩, rfl⟩; exact ⟨e, he, rfl, hc⟩
  · rintro ⟨e, he, rfl, hc⟩; exact ⟨e, ⟨he, hc⟩, rfl⟩

/-- gossip adds exactly the peers the handshakes proved (address and role as returned by
Connect), never the claimed address of an entry -/
theorem C15_gossip_adds_only_proven (v : View) (es : List Entry) (at_ : Atom)
    (h : at_ ∈ atomsOf v (.gossip es)) : ∃ e ∈ es, ∃ p, e.connect = some p ∧ at_ = .add p := by
  simp only [atomsOf, List.mem_map, List.mem_filterMap, List.mem_filter] at h
  obtain ⟨p, ⟨e, ⟨he, _⟩, hc⟩, rfl⟩ := h
  exact ⟨e, he, p, hc, rfl⟩

/-- **The view is updated before anything is announced and whatever is announced**: the view after
`Connected p` is `add v p` — it does not depend on the address-book lookups or on any
announcement — so an event arriving while the announcements are still going out (the harness
delivers a disconnect of the same peer at that moment) meets the view that already holds `p`,
and the view after it is the sequential one. -/
theorem C15_connected_view_first (v : View) (p : Peer) (fails : List Nat) :
    (step v (.connected p fails)).1 = add v p ∧
    (step (step v (.connected p fails)).1 (.disconnected p)).1 = remove (add v p) p :=
  ⟨rfl, rfl⟩

/-- a peer that connects and disconnects again is not reported, whatever was reported before -/
theorem C15_connect_then_disconnect_absent (v : View) (p : Peer) (fails : List Nat)
    (hr : p.role = roleProvider ∨ p.role = roleBidder) :
    isConnected (step (step v (.connected p fails)).1 (.disconnected p)).1 p.addr =
      (if p.role = roleProvider then v.bidders.any (fun q => q.addr = p.addr)
       else v.providers.any (fun q => q.addr = p.addr)) := by
  -- the bit of `(p.addr, p.role)` is set and then cleared; the bit of the other role is `v`'s
  rw [(C15_connected_view_first v p fails).2, C15_isConnected_member,
    C15_member_remove (.inl rfl), C15_member_remove (.inr rfl),
    C15_member_add (.inl rfl), C15_member_add (.inr rfl)]
  rcases hr with hr | hr <;> simp [hr, C15_roles_ne, C15_roles_ne.symm, C15_member, C15_has]

/-- non-vacuity -/
example : (run View.empty [.connected ⟨1, 1⟩ [], .connected ⟨2, 2⟩ [], .connected ⟨3, 1⟩ [],
    .disconnected ⟨1, 1⟩, .gossip [⟨3, none⟩, ⟨9, some ⟨7, 1⟩⟩]]).map (·.2) =
    [⟨[], []⟩, ⟨[⟨⟨2, 2⟩, [1]⟩], []⟩, ⟨[⟨⟨3, 1⟩, [1]⟩, ⟨⟨2, 2⟩, [3]⟩], []⟩, ⟨[], []⟩, ⟨[], [9]⟩] := by decide
