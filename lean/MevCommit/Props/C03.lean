import MevCommit.Spec.C03
import MevCommit.Lemmas.BE
open MevCommit MevCommit.Signer MevCommit.Eip712 MevCommit.Spec.C03

/-- the type strings in the Go source are exactly `encodeType` of the published schemas -/
theorem C03_type_strings :
    encodeType bidSchema = Extracted.bidTypeString ∧
    encodeType commitSchema = Extracted.commitTypeString ∧
    encodeType domainSchema = Extracted.bidDomainType ∧
    encodeType domainSchema = Extracted.commitDomainType := by
  -- `showDec` is defined by well-founded recursion, which only the kernel unfolds
  decide +kernel

theorem C03_domains :
    Extracted.bidDomainName = bidDomainName ∧ Extracted.commitDomainName = commitDomainName ∧
    Extracted.bidDomainVersion = domainVersion ∧ Extracted.commitDomainVersion = domainVersion ∧
    Extracted.bidPrefix = [0x19, 0x01] ∧ Extracted.commitPrefix = [0x19, 0x01] ∧
    Extracted.missing = [] := by decide

theorem C03_parseAmount_of_uint64 {a : Bytes} {n : Nat} (ha : parseBigInt a = some (Int.ofNat n))
    (hn : n < 2 ^ 64) : parseAmount a = some (Int.ofNat n) := by
  have hr : 0 ≤ (n : Int) ∧ (n : Int) < 2 ^ 256 := by omega
  simp only [parseAmount, ha]
  exact if_pos hr

theorem C03_u256_int63 {x : Int} (h : 0 ≤ x ∧ x < 2 ^ 63) : u256 x = x.toNat :=
  u256_of_nonneg h.1 (by omega)

/-- For every amount the hash functions accept and all integer members, the bid digest is the
EIP-712 digest of the members read as 256-bit two's-complement words. -/
theorem C03_bid_digest (H : Bytes → Bytes) (b : Bid) (amt : Int) (ha : parseAmount b.amount = some amt) :
    getBidHash H b = .ok (bidDigest H b.txHash (u256 amt) (u256 b.blockNumber) (u256 b.decayStart)
      (u256 b.decayEnd)) := by
  have ⟨hty, _, hdomTy, _⟩ := C03_type_strings
  have ⟨hname, _, hver, _, hpre, _, _⟩ := C03_domains
  simp only [getBidHash, ha, bidDigest, digest, hashStruct, domainSeparator, bidStructData, bidVals, encodeVal,
    be32, List.map_cons, List.map_nil, List.flatten_cons, List.flatten_nil, List.append_nil, List.append_assoc,
    hty, hdomTy, hname, hver, hpre]

theorem C03_commit_digest (H : Bytes → Bytes) (b : Bid) (amt : Int) (ha : parseAmount b.amount = some amt) :
    getCommitHash H b = .ok (commitDigest H b.txHash (u256 amt) (u256 b.blockNumber) (u256 b.decayStart)
      (u256 b.decayEnd) (b.digest.getD []) (b.signature.getD [])) := by
  have ⟨_, hty, _, hdomTy⟩ := C03_type_strings
  have ⟨_, hname, _, hver, _, hpre, _⟩ := C03_domains
  simp only [getCommitHash, ha, commitDigest, digest, hashStruct, domainSeparator, commitStructData, bidVals,
    encodeVal, be32, List.map_cons, List.map_nil, List.flatten_cons, List.flatten_nil, List.append_nil,
    List.append_assoc, List.cons_append, List.nil_append, hty, hdomTy, hname, hver, hpre]

/-- **Bid digest = EIP-712 digest** for every hash function, every tx-hash string, every amount
text whose value fits uint64 and every block number / timestamp in [0, 2^63). -/
theorem C03_bid_digest_is_eip712 (H : Bytes → Bytes) (b : Bid) (amt : Nat)
    (ha : parseBigInt b.amount = some (Int.ofNat amt)) (hamt : amt < 2 ^ 64)
    (hb : 0 ≤ b.blockNumber ∧ b.blockNumber < 2 ^ 63)
    (hs : 0 ≤ b.decayStart ∧ b.decayStart < 2 ^ 63)
    (he : 0 ≤ b.decayEnd ∧ b.decayEnd < 2 ^ 63) :
    getBidHash H b = .ok (bidDigest H b.txHash amt b.blockNumber.toNat b.decayStart.toNat b.decayEnd.toNat) := by
  rw [C03_bid_digest H b _ (C03_parseAmount_of_uint64 ha hamt), u256_ofNat (Nat.lt_trans hamt (by decide)),
    C03_u256_int63 hb, C03_u256_int63 hs, C03_u256_int63 he]

/-- **Commitment digest = EIP-712 digest**, covering the lowercase-hex renderings of the bid's
digest and signature. -/
theorem C03_commit_digest_is_eip712 (H : Bytes → Bytes) (b : Bid) (amt : Nat) (d s : Bytes)
    (hd : b.digest = some d) (hsg : b.signature = some s)
    (ha : parseBigInt b.amount = some (Int.ofNat amt)) (hamt : amt < 2 ^ 64)
    (hb : 0 ≤ b.blockNumber ∧ b.blockNumber < 2 ^ 63)
    (hs : 0 ≤ b.decayStart ∧ b.decayStart < 2 ^ 63)
    (he : 0 ≤ b.decayEnd ∧ b.decayEnd < 2 ^ 63) :
    getCommitHash H b = .ok (commitDigest H b.txHash amt b.blockNumber.toNat b.decayStart.toNat
      b.decayEnd.toNat d s) := by
  rw [C03_commit_digest H b _ (C03_parseAmount_of_uint64 ha hamt), u256_ofNat (Nat.lt_trans hamt (by decide)),
    C03_u256_int63 hb, C03_u256_int63 hs, C03_u256_int63 he, hd, hsg, Option.getD_some, Option.getD_some]

/-- **Signature form**: given the key signer's contract (65 bytes, v ∈ {0,1}) the emitted
signature is 65 bytes, r‖s unchanged, v ∈ {27,28}. -/
theorem C03_emitted_signature_form (rs : Bytes) (v : UInt8) (hl : rs.length = 64) (hv : v = 0 ∨ v = 1) :
    emitV (rs ++ [v]) = rs ++ [v + 27] ∧ sigFormOk (emitV (rs ++ [v])) = true := by
  have h1 : emitV (rs ++ [v]) = rs ++ [v + 27] := by
    simp only [emitV, List.getLast?_concat, hv, if_true, List.dropLast_concat]
  rw [h1]
  refine ⟨rfl, ?_⟩
  simp only [sigFormOk, List.length_append, hl, List.getLast?_concat, List.length_singleton]
  rcases hv with rfl | rfl <;> rfl
