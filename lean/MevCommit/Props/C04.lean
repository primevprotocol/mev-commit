import MevCommit.Model.Handshake
open MevCommit MevCommit.Handshake

/-
Each model function here is a decision tree whose leaves return a constant.  The proofs walk the
leaves with `fun_cases` (one goal per leaf, the path conditions as hypotheses) and compare the
returned value with the one assumed: `rintro ⟨⟩` closes every leaf that returns something else
and, in a leaf that agrees, identifies the variables of the statement with those of the leaf.
-/

/-- `verifyReq` succeeds exactly when the signature over role‖token verifies, to the address of
the authenticated transport identity, and — for the role string "provider" — the registry
confirmed that address; the registry is consulted only after the signature and address checks
passed, and at most once. -/
theorem C04_verifyReq_ok_iff (e : Env) (r : Req) (a : Bytes) (n : Nat) :
    verifyReq e r = (.inl a, n) ↔
      e.verify r.sig (r.role ++ r.token) = some (true, a) ∧ e.addrOfPeer = some a ∧
      ((r.role = Extracted.roleProvider ∧ e.registered a = true ∧ n = 1) ∨
       (r.role ≠ Extracted.roleProvider ∧ n = 0)) := by
  constructor
  · fun_cases verifyReq e r
    all_goals rintro ⟨⟩
    -- two of the seven leaves are left: registered provider, and not a provider
    all_goals simp_all
  · rintro ⟨hv, hp, h⟩
    simp only [verifyReq, hv, hp]
    rcases h with ⟨hr, hreg, rfl⟩ | ⟨hr, rfl⟩
    · simp [hr, hreg]
    · simp [hr]

theorem C04_verifyReq_proven {e : Env} {r : Req} {a : Bytes} {n : Nat} (h : verifyReq e r = (.inl a, n)) :
    e.verify r.sig (r.role ++ r.token) = some (true, a) ∧ e.addrOfPeer = some a ∧
      (r.role = Extracted.roleProvider → e.registered a = true) ∧ n ≤ 1 := by
  obtain ⟨hv, hp, ⟨_, hreg, rfl⟩ | ⟨hr, rfl⟩⟩ := (C04_verifyReq_ok_iff e r a n).mp h
  · exact ⟨hv, hp, fun _ => hreg, Nat.le_refl 1⟩
  · exact ⟨hv, hp, fun h => absurd h hr, Nat.zero_le 1⟩

theorem C04_verifyResp_iff {e : Env} {r : Resp} :
    verifyResp e r = true ↔ r.observed = e.ownAddr ∧ r.role = e.ownRole := by
  simp [verifyResp]

/-- **Responder admission**: a remote is admitted with address A and role T only if its first
frame was a request whose signature over exactly its claimed role‖token verifies to A, A is the
address of the authenticated transport identity, a provider claim was confirmed by the registry
in this handshake, and its second frame echoed the local node's own address and role. -/
theorem C04_handle_admits_only_proven (e : Env) (tok sg : Bytes) (remote : List Frame) (a : Bytes) (t : Role)
    (n : Nat) (w : List Frame) (h : handle e tok sg remote = ⟨.admitted a t, n, w⟩) :
    ∃ r ack rest, remote = .req r :: .resp ack :: rest ∧
      e.verify r.sig (r.role ++ r.token) = some (true, a) ∧ e.addrOfPeer = some a ∧
      (r.role = Extracted.roleProvider → e.registered a = true) ∧
      t = roleOf r.role ∧ ack.observed = e.ownAddr ∧ ack.role = e.ownRole ∧ n ≤ 1 := by
  revert h
  fun_cases handle e tok sg remote
  all_goals rintro ⟨⟩
  -- the one admitting leaf
  obtain ⟨hv, hp, hreg, hn⟩ := C04_verifyReq_proven ‹verifyReq e _ = _›
  obtain ⟨ho, hr⟩ := C04_verifyResp_iff.mp ‹verifyResp e _ = true›
  exact ⟨_, _, _, rfl, hv, hp, hreg, rfl, ho, hr, hn⟩

/-- **Initiator admission**: the responder must first echo the initiator's own address and role,
then present a request that passes the same checks. -/
theorem C04_handshake_admits_only_proven (e : Env) (tok sg : Bytes) (remote : List Frame) (a : Bytes) (t : Role)
    (n : Nat) (w : List Frame) (h : handshake e tok sg remote = ⟨.admitted a t, n, w⟩) :
    ∃ echo r rest, remote = .resp echo :: .req r :: rest ∧
      echo.observed = e.ownAddr ∧ echo.role = e.ownRole ∧
      e.verify r.sig (r.role ++ r.token) = some (true, a) ∧ e.addrOfPeer = some a ∧
      (r.role = Extracted.roleProvider → e.registered a = true) ∧ t = roleOf r.role ∧ n ≤ 1 := by
  revert h
  fun_cases handshake e tok sg remote
  all_goals rintro ⟨⟩
  -- the one admitting leaf
  obtain ⟨hv, hp, hreg, hn⟩ := C04_verifyReq_proven ‹verifyReq e _ = _›
  obtain ⟨ho, hr⟩ := C04_verifyResp_iff.mp (Bool.not_not_eq.mp ‹¬(!verifyResp e _) = true›)
  exact ⟨_, _, _, rfl, ho, hr, hv, hp, hreg, rfl, hn⟩

/-- a peer is admitted *as provider* only through the exact role string the stake check keys on -/
theorem C04_provider_role_needs_stake (r : Bytes) (h : roleOf r = .provider) : r = Extracted.roleProvider := by
  revert h
  fun_cases roleOf r
  all_goals rintro ⟨⟩
  assumption

theorem C04_role_strings :
    Extracted.roleProvider = [112, 114, 111, 118, 105, 100, 101, 114] ∧
    Extracted.roleBidder = [98, 105, 100, 100, 101, 114] ∧
    Extracted.roleBootnode = [98, 111, 111, 116, 110, 111, 100, 101] := ⟨rfl, rfl, rfl⟩

/-- **Registration and notification only after success**; refusals for signature / address
failures are blocked forever, stake failures for a limited time, other failures not at all -/
theorem C04_caller (inbound known : Bool) (o : Outcome) :
    ((caller inbound known o).registered.isSome ↔ ∃ a t, o = .admitted a t) ∧
    ((caller inbound known o).notified = true → ∃ a t, o = .admitted a t) ∧
    (∀ why, o = .refused why → (caller inbound known o).blocked = blockFor inbound why) := by
  cases o <;> simp [caller]

/-- non-vacuity: an honest bidder is admitted by a provider node -/
example :
    let e : Env := ⟨fun _ _ => some (true, [1, 2]), some [1, 2], fun _ => false, [9], Extracted.roleProvider, fun _ => true⟩
    (handle e [] [] [.req ⟨Extracted.roleBidder, [], []⟩, .resp ⟨[9], Extracted.roleProvider⟩]).outcome =
      .admitted [1, 2] .bidder := by decide
