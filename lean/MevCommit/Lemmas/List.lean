namespace List

/-- reading the `k` indices from `start` on, one by one, yields that slice of the list (indices past the end
yield nothing) -/
theorem filterMap_getElem?_range {α : Type _} (l : List α) (start k : Nat) :
    (List.range k).filterMap (fun i => l[start + i]?) = (l.drop start).take k := by
  induction k with
  | zero => rfl
  | succ k ih =>
    rw [List.range_succ, List.filterMap_append, ih, List.take_add_one, List.getElem?_drop]
    rfl

theorem nodup_concat {α : Type _} {l : List α} {a : α} (ha : a ∉ l) (hl : l.Nodup) : (l ++ [a]).Nodup :=
  (nodup_cons.2 ⟨ha, hl⟩).perm (perm_append_singleton a l).symm

end List
