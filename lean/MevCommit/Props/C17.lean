import MevCommit.Model.Blocklist
import MevCommit.Spec.C17
/-
C17 — property theorems: for every history of placements (permanent, timed, re-blocking),
time advances and queries, the block list answers exactly "some placement is still in force".
The model is read through one observable, `C17_live`: whether the stored value of an id blocks
at a given time.  `isBlocked`, `listed`, `block` and the expiry deletion are each characterised
by it, and the coupling says that it agrees with the spec's `inForce` from now on.
-/
open MevCommit MevCommit.Blocklist MevCommit.Spec.C17

/-- the stored value `v` blocks at time `t`: the spec's test of one placement, on an entry -/
def C17_live (v : Option Entry) (t : Nat) : Bool :=
  match v with
  | none => false
  | some e => e.dur == 0 || decide (t ≤ e.start + e.dur)

theorem C17_live_iff (e : Entry) (t : Nat) :
    C17_live (some e) t = true ↔ e.dur = 0 ∨ t ≤ e.start + e.dur := by
  rw [C17_live, Bool.or_eq_true, beq_iff_eq, decide_eq_true_eq]

theorem C17_live_earlier {e : Entry} {a b : Nat} (hab : a ≤ b) (h : C17_live (some e) b = true) :
    C17_live (some e) a = true :=
  (C17_live_iff e a).mpr (((C17_live_iff e b).mp h).imp_right (Nat.le_trans hab))

theorem C17_expired_iff (e : Entry) (now : Nat) :
    expired e now = true ↔ e.dur ≠ 0 ∧ e.start + e.dur < now := by
  rw [expired, Bool.and_eq_true, decide_eq_true_eq, decide_eq_true_eq, Entry.end_]

theorem C17_expired_eq (e : Entry) (t : Nat) : expired e t = !C17_live (some e) t := by
  rw [Bool.eq_iff_iff, C17_expired_iff, Bool.not_eq_true', ← Bool.not_eq_true, C17_live_iff, not_or,
    Nat.not_le]

theorem C17_isBlocked_snd (m : Map) (id t : Nat) : (isBlocked m id t).2 = C17_live (m id) t := by
  unfold isBlocked
  cases m id with
  | none => rfl
  | some e => simp only [C17_expired_eq]; cases C17_live (some e) t <;> rfl

/-- `BlockedPeers` lists what would still block an instant later -/
theorem C17_listed_eq (m : Map) (id now : Nat) : listed m id now = C17_live (m id) (now + 1) := by
  unfold listed
  -- `now < end` is `now + 1 ≤ end`, the test of `C17_live` an instant later
  cases m id <;> rfl

/-- the deletion of an expired entry by `isBlocked` cannot be observed from then on -/
theorem C17_live_isBlocked (m : Map) (id now i t : Nat) (ht : now ≤ t) :
    C17_live ((isBlocked m id now).1 i) t = C17_live (m i) t := by
  unfold isBlocked
  split
  next => rfl
  next e hm =>
    split
    next hx =>
      by_cases hi : i = id
      · -- `e`, not in force at `now`, is not in force at `t` either
        rw [C17_expired_eq, Bool.not_eq_true'] at hx
        have : C17_live (some e) t = false :=
          Bool.eq_false_iff.mpr (mt (C17_live_earlier ht) (Bool.eq_false_iff.mp hx))
        simp only [hi, hm, this]
        rfl
      · simp only [if_neg hi]
    next => rfl

/-- **`blockPeer` keeps the stronger block**: the merged block is in force exactly when one of
the two is. -/
theorem C17_live_merge (old : Option Entry) (n : Entry) (t : Nat) :
    C17_live (some (merge old n)) t = (C17_live old t || C17_live (some n) t) := by
  cases old with
  | none => rfl
  | some o =>
    rw [Bool.eq_iff_iff, Bool.or_eq_true, C17_live_iff, C17_live_iff, C17_live_iff, merge]
    split
    next ho => exact ⟨fun _ => .inl (.inl ho), fun _ => .inl ho⟩
    next ho =>
      split
      next hn => exact ⟨fun _ => .inr (.inl hn), fun _ => .inl hn⟩
      next hn =>
        -- both timed: the one that ends later is kept, and covers the term of the other
        split
        next hlt => exact ⟨.inl, fun h => h.elim id fun h =>
          .inr (Nat.le_trans (h.resolve_left hn) (Nat.le_of_lt hlt))⟩
        next hlt => exact ⟨.inr, fun h => h.elim (fun h =>
          .inr (Nat.le_trans (h.resolve_left ho) (Nat.le_of_not_lt hlt))) id⟩

theorem C17_live_block (m : Map) (id dur now i t : Nat) :
    C17_live (block m id dur now i) t =
      ((id == i && C17_live (some ⟨now, dur⟩) t) || C17_live (m i) t) := by
  unfold block
  by_cases hi : i = id
  · rw [if_pos hi, hi, C17_live_merge, beq_self_eq_true, Bool.true_and, Bool.or_comm]
  · rw [if_neg hi, beq_false_of_ne (Ne.symm hi), Bool.false_and, Bool.false_or]

theorem C17_inForce_iff (log : Log) (id now : Nat) :
    inForce log id now = true ↔ ∃ p ∈ log, p.1 = id ∧ (p.2.2 = 0 ∨ now ≤ p.2.1 + p.2.2) := by
  simp only [inForce, List.any_eq_true, Bool.and_eq_true, Bool.or_eq_true, beq_iff_eq,
    decide_eq_true_eq]

theorem C17_inForce_earlier {log : Log} {id a b : Nat} (hab : a ≤ b)
    (h : inForce log id b = true) : inForce log id a = true := by
  rw [C17_inForce_iff] at h ⊢
  obtain ⟨p, hp, hpi, hl⟩ := h
  exact ⟨p, hp, hpi, hl.imp_right (Nat.le_trans hab)⟩

/-- coupling between the stored map and the placement log: from `now` on, the map blocks an id
exactly when the log says a placement on it is in force -/
def C17_Inv (m : Map) (log : Log) (now : Nat) : Prop :=
  ∀ id t, now ≤ t → C17_live (m id) t = inForce log id t

/-- one step of the model is accepted by the spec and preserves the coupling -/
theorem C17_step_ok (s : St) (t : S) (op : Op) (hn : s.now = t.now) (h : C17_Inv s.m t.log s.now) :
    (stepOk t op (step s op).2).1 = true ∧
    (step s op).1.now = (stepOk t op (step s op).2).2.now ∧
    C17_Inv (step s op).1.m (stepOk t op (step s op).2).2.log (step s op).1.now := by
  obtain ⟨m, now⟩ := s
  obtain ⟨log, _⟩ := t
  cases hn
  cases op with
  | block id dur =>
    refine ⟨rfl, rfl, fun i t ht => ?_⟩
    show C17_live (block m id dur now i) t = inForce ((id, now, dur) :: log) i t
    rw [C17_live_block, h i t ht]
    rfl  -- `inForce` of the longer log unfolds to this
  | advance dt => exact ⟨rfl, rfl, fun i t ht => h i t (Nat.le_trans (Nat.le_add_right now dt) ht)⟩
  | query id | dial id | secured id =>
    refine ⟨?_, rfl, fun i t ht => (C17_live_isBlocked m id now i t ht).trans (h i t ht)⟩
    simp only [step, stepOk, C17_isBlocked_snd, h id now (Nat.le_refl now), beq_self_eq_true]
  | list ids =>
    refine ⟨?_, rfl, h⟩
    have hl (i : Nat) : listed m i now = inForce log i (now + 1) := by
      rw [C17_listed_eq, h i (now + 1) (Nat.le_succ now)]
    simp only [step, stepOk, hl, Bool.and_eq_true, List.all_eq_true, List.mem_filter, and_imp,
      Bool.or_eq_true, Bool.not_eq_true', List.contains_eq_mem, decide_eq_true_eq]
    refine ⟨fun i _ => C17_inForce_earlier (Nat.le_succ now), fun i hi => ?_⟩
    cases hf : inForce log i (now + 1) with
    | true => exact .inr ⟨hi, rfl⟩
    | false => exact .inl rfl

theorem C17_run_ok (ops : List Op) (s : St) (t : S) (hn : s.now = t.now) (h : C17_Inv s.m t.log s.now) :
    check t ops (run s ops) = true := by
  induction ops generalizing s t with
  | nil => rfl
  | cons op ops ih =>
    have := C17_step_ok s t op hn h
    simp only [run, check, this.1, Bool.true_and]
    exact ih _ _ this.2.1 this.2.2

/-- **Main theorem**: every history satisfies the property. -/
theorem C17_all_histories (ops : List Op) : ok ops (run init ops) = true :=
  C17_run_ok ops init S0 rfl fun _ _ _ => rfl

/-- **Permanent blocks never lapse**: once a permanent block is in the log the peer is in force at
every later time, whatever is placed afterwards (the log only grows). -/
theorem C17_permanent_forever (log : Log) (id start now : Nat) (h : (id, start, 0) ∈ log) :
    inForce log id now = true :=
  (C17_inForce_iff ..).mpr ⟨_, h, rfl, .inl rfl⟩

/-- **Timed blocks hold their full term** -/
theorem C17_timed_full_term (log : Log) (id start dur now : Nat) (h : (id, start, dur) ∈ log)
    (hnow : now ≤ start + dur) : inForce log id now = true :=
  (C17_inForce_iff ..).mpr ⟨_, h, rfl, .inr hnow⟩

/-- **Never-blocked peers are unaffected** -/
theorem C17_never_blocked (log : Log) (id now : Nat) (h : ∀ p ∈ log, p.1 ≠ id) :
    inForce log id now = false :=
  Bool.eq_false_iff.mpr fun hf =>
    have ⟨p, hp, hpi, _⟩ := (C17_inForce_iff ..).mp hf
    h p hp hpi

/-- **Failure classes**: signature and address failures are blocked forever (duration 0), stake
failures for 2 min (inbound) / 5 min (outbound) — regenerated from libp2p.go. -/
theorem C17_failure_classes :
    blockDuration true .signature = 0 ∧ blockDuration false .signature = 0 ∧
    blockDuration true .addressMismatch = 0 ∧ blockDuration false .addressMismatch = 0 ∧
    blockDuration true .insufficientStake = 120 * 1000000000 ∧
    blockDuration false .insufficientStake = 300 * 1000000000 := by decide

/-- non-vacuity, and the history on which plain overwriting fails: permanent, then timed, then
a query after the timed term -/
example : run init [.block 1 0, .block 1 20, .advance 40, .query 1, .dial 1, .block 2 50, .block 2 5,
    .advance 20, .secured 2, .advance 40, .query 2, .list [1, 2, 3]] =
    [.none, .none, .none, .blocked true, .allowed false, .none, .none, .none, .allowed false, .none,
     .blocked false, .listing [1]] := by decide
