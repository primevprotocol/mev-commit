import MevCommit.Model.Usable
import MevCommit.Model.UsableN
open MevCommit MevCommit.Usable

/-- invariant of the protocol with the waiting wrapper -/
def C20_Inv (s : St) : Prop :=
  (s.inflight = false → s.rPhase = .registered) ∧ s.stream ≠ .refused

/-- a guarded command keeps `P` if its enabled branch does -/
theorem C20_guarded {σ : Type} {P : σ → Prop} {c : Prop} [Decidable c] {s t : σ} (h : P s) (ht : c → P t) :
    P (if c then t else s) := by
  split
  next hc => exact ht hc
  next => exact h

theorem C20_inv_init : C20_Inv init := ⟨nofun, nofun⟩

theorem C20_step_inv (s : St) (x : Step) (h : C20_Inv s) : C20_Inv (step true s x) := by
  -- every step is a guarded command: only its enabled branch is to be checked
  cases x <;> refine C20_guarded h fun hg => ?_
  case iWriteFinal | iReturn => exact h
  case iOpenStream => exact ⟨h.1, nofun⟩
  case rReadVerify =>
    refine ⟨fun hi => ?_, h.2⟩
    simp [h.1 hi] at hg
  case rRegister => exact ⟨fun _ => rfl, h.2⟩
  case rDone => exact ⟨fun _ => eq_of_beq hg, h.2⟩
  case wrapperLookup =>
    split
    · exact ⟨h.1, nofun⟩
    split
    · exact ⟨h.1, nofun⟩
    next hr hw =>
      -- neither registered nor in flight: excluded by the invariant
      rw [Bool.true_and, Bool.not_eq_true] at hw
      simp [h.1 hw] at hr
  case wrapperResume =>
    rw [Bool.and_eq_true, Bool.not_eq_true'] at hg
    rw [h.1 hg.2]
    exact ⟨fun _ => rfl, nofun⟩

theorem C20_run_inv (xs : List Step) (s : St) (h : C20_Inv s) : C20_Inv (run true s xs) := by
  induction xs generalizing s with
  | nil => exact h
  | cons x xs ih => exact ih _ (C20_step_inv s x h)

/-- **Usable as soon as connect succeeded**: under every interleaving of the two nodes' steps —
however late the responder verifies the final message and registers the peer — a stream the
initiator opens after its connect returned is never refused as coming from an unknown peer. -/
theorem C20_never_refused (xs : List Step) : (run true init xs).stream ≠ .refused :=
  (C20_run_inv xs init C20_inv_init).2

/-- and once the responder finished its side, a waiting stream is accepted with the registered identity -/
theorem C20_waiting_gets_accepted (s : St) (h : C20_Inv s) (hw : s.stream = .waiting) (hd : s.inflight = false) :
    (step true s .wrapperResume).stream = .accepted := by
  simp [step, hw, hd, h.1 hd]

/-- the wrapper that does not wait (the pinned tree) violates the property: the 4-step schedule
"initiator writes, returns, opens a stream; responder's wrapper runs before its handshake
handler read the final message" -/
theorem C20_without_wait_refused :
    (run false init [.iWriteFinal, .iReturn, .iOpenStream, .wrapperLookup]).stream = .refused := by decide

/-- non-vacuity: the same schedule with the waiting wrapper, then the responder finishing -/
example : (run true init [.iWriteFinal, .iReturn, .iOpenStream, .wrapperLookup, .rReadVerify, .rRegister,
    .rDone, .wrapperResume]).stream = .accepted := by decide

/-! ## The lock-level model (`Model/UsableN`): counted in-flight records, four wrapper steps -/

section LockLevel
open MevCommit.UsableN

@[simp]
theorem C20N_addPeer_some (j i : Nat) : UsableN.addPeer (some j) i = some j := rfl

theorem C20N_addPeer_ne_none (r : Option Nat) (i : Nat) : addPeer r i ≠ none := by
  cases r <;> nofun

theorem C20N_addPeer_cases (r : Option Nat) (k : Nat) : addPeer r k = r ∨ r = none ∧ addPeer r k = some k := by
  cases r
  · exact .inr ⟨rfl, rfl⟩
  · exact .inl rfl

theorem C20N_count_pos {s : NSt} (hi : ownInFlight s = true) : 0 < count s := by
  simp [count, hi]

theorem C20N_not_closed {s : NSt} (hi : ownInFlight s = true) : closed s s.cur = false := by
  simp [closed, C20N_count_pos hi]

/-- invariant of the lock-level model: the stream the initiator opened after its Connect returned
is never refused, a waiter waits for the record that still counts the own handshake (or the peer is
registered already), and a second look-up only happens once the peer is registered -/
structure C20N_Inv (s : NSt) : Prop where
  a : s.finalWritten = true → s.own ≠ .notBegun
  b : s.iConnected = true → s.finalWritten = true
  c : s.stream ≠ .notOpened → s.iConnected = true
  d : (s.own = .registered ∨ s.own = .ended) → s.regId ≠ none
  e : s.stream = .recheck → s.regId ≠ none
  f : ∀ r, s.stream = .waiting r → s.regId ≠ none ∨ (ownInFlight s = true ∧ s.cur = r)
  g : s.stream ≠ .refused
  i : ∀ j, s.stream = .accepted j → s.regId = some j

theorem C20N_inv_init : C20N_Inv ninit := by
  constructor <;> simp [ninit]

/-- once a stream is open the own handler has begun (`c`, `b`, `a`): it is counted, or it has
returned and left the peer registered -/
theorem C20N_Inv.reg_or_inFlight {s : NSt} (h : C20N_Inv s) (ho : s.stream ≠ .notOpened) :
    s.regId ≠ none ∨ ownInFlight s = true := by
  cases hown : s.own with
  | notBegun => exact absurd hown (h.a (h.b (h.c ho)))
  | ended => exact .inl (h.d (.inr hown))
  | _ => exact .inr (by rw [ownInFlight, hown]; rfl)

/- How the invariant is kept: one lemma per field that steps write.  In `{ h with … }` only the
clauses that speak of the written field are given; the others hold by unfolding the new state. -/

/-- what clauses `e`, `f`, `g`, `i` of the invariant ask of the phase of the stream -/
def C20N_phaseOk (s : NSt) : WPhase → Prop
  | .recheck => s.regId ≠ none
  | .waiting r => s.regId ≠ none ∨ (ownInFlight s = true ∧ s.cur = r)
  | .accepted j => s.regId = some j
  | .refused => False
  | _ => True

theorem C20N_Inv.setStream {s : NSt} (h : C20N_Inv s) (hc : s.iConnected = true) (p : WPhase)
    (hp : C20N_phaseOk s p) : C20N_Inv { s with stream := p } :=
  { h with
    c := fun _ => hc
    e := fun he => by subst he; exact hp
    f := fun r hr => by subst hr; exact hp
    g := fun hg => by subst hg; exact hp
    i := fun j hj => by subst hj; exact hp }

/-- no clause mentions `others`; stated about a variable state because `{ h with }` against an unfolded step
is slow to elaborate -/
theorem C20N_Inv.setOthers {s : NSt} (h : C20N_Inv s) (n : Nat) : C20N_Inv { s with others := n } :=
  { h with }

theorem C20N_Inv.setReg {s : NSt} (h : C20N_Inv s) (k : Nat) : C20N_Inv { s with regId := addPeer s.regId k } :=
  { h with
    d := fun _ => C20N_addPeer_ne_none _ _
    e := fun _ => C20N_addPeer_ne_none _ _
    f := fun _ _ => .inl (C20N_addPeer_ne_none _ _)
    i := fun j hj => by rw [h.i j hj, C20N_addPeer_some] }

theorem C20N_Inv.setOwn {s : NSt} (h : C20N_Inv s) (o : HPhase) (ha : o ≠ .notBegun)
    (hd : o = .registered ∨ o = .ended → s.regId ≠ none)
    (hf : ownInFlight s = true → s.regId ≠ none ∨ ownInFlight { s with own := o } = true) :
    C20N_Inv { s with own := o } :=
  { h with
    a := fun _ => ha
    d := hd
    f := fun r hr => by
      rcases h.f r hr with hreg | ⟨hi, hcur⟩
      · exact .inl hreg
      · exact (hf hi).imp_right fun hi' => ⟨hi', hcur⟩ }

/-- a beginning handler replaces the current record only while none is counted: then the own handler
is not in flight, and nobody waits on its account -/
theorem C20N_Inv.beginRec {s : NSt} (h : C20N_Inv s) : C20N_Inv (beginRec s) := by
  unfold UsableN.beginRec
  split
  next h0 =>
    exact { h with
      f := fun r hr => (h.f r hr).imp_right fun ⟨hi, _⟩ => absurd h0 (Nat.ne_of_gt (C20N_count_pos hi)) }
  next => exact h

theorem C20N_step_inv (s : NSt) (x : NStep) (h : C20N_Inv s) : C20N_Inv (nstep true s x) := by
  cases x
  case oBegin => exact h.beginRec.setOthers _
  case w3 =>
    rw [nstep]
    split
    next r hs =>
      refine C20_guarded h fun hcl => h.setStream (h.c (by rw [hs]; nofun)) .recheck ?_
      -- the record waited for is closed, so it is not the one that counts the own handler
      refine (h.f r hs).resolve_right fun ⟨hi, hcur⟩ => ?_
      rw [← hcur, C20N_not_closed hi] at hcl
      cases hcl
    next => exact h
  -- every other step is a guarded command: only its enabled branch is to be checked
  all_goals refine C20_guarded h fun hg => ?_
  case rBegin => exact h.beginRec.setOwn .begun (ha := nofun) (hd := nofun) (hf := fun _ => .inr rfl)
  case oRegister i => exact h.setReg (i + 1)
  case oEnd => exact h.setOthers _
  case iWriteFinal =>
    rw [Bool.and_eq_true, bne_iff_ne] at hg
    exact { h with a := fun _ => hg.1, b := fun _ => rfl }
  case iReturn => exact { h with b := fun _ => hg, c := fun _ => rfl }
  case iOpenStream =>
    rw [Bool.and_eq_true] at hg
    exact h.setStream hg.1 .pending trivial
  case rReadVerify => exact h.setOwn .verified (ha := nofun) (hd := nofun) (hf := fun _ => .inr rfl)
  case rRegister =>
    exact (h.setReg 0).setOwn .registered (ha := nofun) (hd := fun _ => C20N_addPeer_ne_none _ _)
      (hf := fun _ => .inr rfl)
  case rDone =>
    have hreg := h.d (.inl (eq_of_beq hg))
    exact h.setOwn .ended (ha := nofun) (hd := fun _ => hreg) (hf := fun _ => .inl hreg)
  case w1 =>
    have hc := h.c (by rw [eq_of_beq hg]; nofun)
    split
    next j hj => exact h.setStream hc (.accepted j) hj
    next => exact h.setStream hc .notFound trivial
  case w2 =>
    have ho : s.stream ≠ .notOpened := by rw [eq_of_beq hg]; nofun
    split
    next => exact h.setStream (h.c ho) (.waiting s.cur) ((h.reg_or_inFlight ho).imp_right fun hi => ⟨hi, rfl⟩)
    next h0 =>
      -- no record: the own handler is not counted, so it has returned
      exact h.setStream (h.c ho) .recheck
        ((h.reg_or_inFlight ho).resolve_right fun hi => h0 (by simp [C20N_count_pos hi]))
  case w4 =>
    have hs := eq_of_beq hg
    split
    next j hj => exact h.setStream (h.c (by rw [hs]; nofun)) (.accepted j) hj
    next hn => exact absurd hn (h.e hs)

theorem C20N_run_inv (xs : List NStep) (s : NSt) (h : C20N_Inv s) : C20N_Inv (nrun true s xs) := by
  induction xs generalizing s with
  | nil => exact h
  | cons x xs ih => exact ih _ (C20N_step_inv s x h)

theorem C20N_run_append (w : Bool) (s : NSt) (xs ys : List NStep) : nrun w s (xs ++ ys) = nrun w (nrun w s xs) ys := by
  induction xs generalizing s with
  | nil => rfl
  | cons x xs ih => exact ih _

/-- **Usable as soon as connect succeeded, at the granularity of the locks**: for every
interleaving of the initiator's steps, the own handshake handler, *any number of other inbound
handshake handlers of the same remote peer beginning, registering and returning at arbitrary
moments*, and the wrapper's four separately locked steps, the stream is never refused. -/
theorem C20N_never_refused (xs : List NStep) : (nrun true ninit xs).stream ≠ .refused :=
  (C20N_run_inv xs ninit C20N_inv_init).g

/-- the wrapper without the record look-up (pinned tree) is refuted in this model too -/
theorem C20N_without_wait_refused :
    (nrun false ninit [.rBegin, .iWriteFinal, .iReturn, .iOpenStream, .w1, .w2, .w4]).stream = .refused := by decide

/-- once every handshake handler of the peer has returned, the wrapper — from whichever of its
steps it is at — ends by invoking the handler -/
theorem C20N_quiescent_accepts (s : NSt) (h : C20N_Inv s) (hq : count s = 0) (ho : s.stream ≠ .notOpened) :
    ∃ j, s.regId = some j ∧ (nrun true s [.w1, .w2, .w3, .w4]).stream = .accepted j := by
  have hreg : s.regId ≠ none :=
    (h.reg_or_inFlight ho).resolve_right fun hi => Nat.ne_of_gt (C20N_count_pos hi) hq
  obtain ⟨j, hj⟩ := Option.ne_none_iff_exists'.mp hreg
  refine ⟨j, hj, ?_⟩
  cases hs : s.stream with
  | notOpened => exact absurd hs ho
  | pending | recheck => simp [nrun, nstep, hs, hj]
  | notFound => simp [nrun, nstep, hs, hj, hq]
  | waiting r => simp [nrun, nstep, hs, hj, closed, hq]
  | accepted k =>
    have hk : j = k := Option.some.inj (hj.symm.trans (h.i k hs))
    simp [nrun, nstep, hs, hk]
  | refused => exact absurd hs h.g

theorem C20N_others_end (s : NSt) : nrun true s (List.replicate s.others .oEnd) = { s with others := 0 } := by
  generalize hn : s.others = n
  induction n generalizing s with
  | zero => cases s; cases hn; rfl
  | succ n ih =>
    have hpos : 0 < s.others := hn ▸ Nat.succ_pos n
    rw [List.replicate_succ, nrun, nstep, if_pos hpos]
    exact ih _ (by rw [hn]; rfl)

theorem C20N_own_ends (s : NSt) (hb : s.own ≠ .notBegun) (hf : s.finalWritten = true) :
    ∃ r, nrun true s [.rReadVerify, .rRegister, .rDone] = { s with own := .ended, regId := r } := by
  obtain ⟨fw, ic, own, oth, cur, nr, reg, st⟩ := s
  cases hf
  cases own
  · exact absurd rfl hb
  all_goals exact ⟨_, rfl⟩

/-- the schedule "the responder finishes all its handshake handlers, then the wrapper runs on" -/
def completion (s : NSt) : List NStep :=
  [.rReadVerify, .rRegister, .rDone] ++ (List.replicate s.others .oEnd ++ [.w1, .w2, .w3, .w4])

/-- **no waiter is left behind**: from every state the invariant allows, the schedule in which the
responder's handlers return leads the opened stream to `accepted` — the wait of
`waitInboundHandshake` cannot deadlock, for any number of concurrent handlers -/
theorem C20N_always_completable (s : NSt) (h : C20N_Inv s) (ho : s.stream ≠ .notOpened) :
    (nrun true s (completion s)).stream.isAccepted = true := by
  have hf := h.b (h.c ho)
  obtain ⟨r, hr⟩ := C20N_own_ends s (h.a hf) hf
  have h2 := C20N_run_inv (List.replicate s.others .oEnd) _ (C20N_run_inv [.rReadVerify, .rRegister, .rDone] s h)
  rw [completion, C20N_run_append, C20N_run_append]
  rw [hr, C20N_others_end] at h2 ⊢
  obtain ⟨j, _, hj⟩ := C20N_quiescent_accepts _ h2 rfl ho
  rw [hj]
  rfl

/-- … in particular from every reachable state -/
theorem C20N_reachable_completable (xs : List NStep) (ho : (nrun true ninit xs).stream ≠ .notOpened) :
    (nrun true ninit (xs ++ completion (nrun true ninit xs))).stream.isAccepted = true := by
  rw [C20N_run_append]
  exact C20N_always_completable _ (C20N_run_inv xs ninit C20N_inv_init) ho

/-- non-vacuity: two further handlers of the same peer come and go around the waiter -/
example : (nrun true ninit [.oBegin, .rBegin, .oEnd, .iWriteFinal, .iReturn, .iOpenStream, .oBegin, .w1, .w2,
    .rReadVerify, .oEnd, .w3, .rRegister, .rDone, .w3, .w4]).stream = .accepted 0 := by decide

/-- **with the proven identity**: in every reachable state the identity the handler was invoked with
is the record the registry holds for the peer, i.e. the identity proven by the first handshake of
that peer that completed (`addPeer` keeps an existing record; nothing removes it while the
connection stays open) -/
theorem C20N_identity_is_registered (xs : List NStep) (j : Nat)
    (h : (nrun true ninit xs).stream = .accepted j) : (nrun true ninit xs).regId = some j :=
  (C20N_run_inv xs ninit C20N_inv_init).i j h

/-- the registry's record is written only while there is none, by `rRegister` (identity 0) or by an
`oRegister i` (identity `i + 1`) -/
theorem C20N_step_regId (w : Bool) (s : NSt) (x : NStep) :
    (nstep w s x).regId = s.regId ∨ s.regId = none ∧
      ((nstep w s x).regId = some 0 ∨ ∃ i, x = .oRegister i ∧ (nstep w s x).regId = some (i + 1)) := by
  cases x with
  | oRegister i =>
    rw [nstep]
    split
    · exact (C20N_addPeer_cases s.regId (i + 1)).imp_right fun ⟨h0, h1⟩ => ⟨h0, Or.inr ⟨i, rfl, h1⟩⟩
    · exact .inl rfl
  | rRegister =>
    rw [nstep]
    split
    · exact (C20N_addPeer_cases s.regId 0).imp_right fun ⟨h0, h1⟩ => ⟨h0, Or.inl h1⟩
    · exact .inl rfl
  | _ =>
    -- no other step writes `regId`: it is the same in both branches of every `if`
    refine .inl ?_
    simp only [nstep, beginRec, apply_ite NSt.regId, ite_self]
    repeat' split
    all_goals rfl

theorem C20N_run_regId (w : Bool) (s : NSt) (xs : List NStep) :
    (nrun w s xs).regId = s.regId ∨ (nrun w s xs).regId = some 0 ∨
      ∃ i, .oRegister i ∈ xs ∧ (nrun w s xs).regId = some (i + 1) := by
  induction xs generalizing s with
  | nil => exact .inl rfl
  | cons x xs ih =>
    rcases ih (nstep w s x) with h | h | ⟨i, hi, h⟩
    · -- nothing written after `x`: what the run holds is what `x` left
      rw [nrun, h]
      rcases C20N_step_regId w s x with h | ⟨-, h | ⟨i, rfl, h⟩⟩
      · exact .inl h
      · exact .inr (.inl h)
      · exact .inr (.inr ⟨i, List.mem_cons_self, h⟩)
    · exact .inr (.inl h)
    · exact .inr (.inr ⟨i, List.mem_cons_of_mem _ hi, h⟩)

/-- the record of a registered peer is stable under every step: later handshakes of the same peer
(claiming whatever role) do not replace the identity handlers are given -/
theorem C20N_record_stable (w : Bool) (s : NSt) (x : NStep) (j : Nat) (h : s.regId = some j) :
    (nstep w s x).regId = some j := by
  rcases C20N_step_regId w s x with h' | ⟨h0, -⟩
  · exact h'.trans h
  · cases h.symm.trans h0

/-- when only the own handshake ever registers, the identity handed over is the one it proved -/
theorem C20N_own_identity (xs : List NStep) (hx : ∀ i, NStep.oRegister i ∉ xs) (j : Nat)
    (h : (nrun true ninit xs).stream = .accepted j) : j = 0 := by
  have h0 := C20N_run_regId true ninit xs
  rw [C20N_identity_is_registered xs j h] at h0
  rcases h0 with h0 | h0 | ⟨i, hi, -⟩
  · cases h0
  · exact Option.some.inj h0
  · exact absurd hi (hx i)

/-- a plausible variant of the repair — the record is deleted and its channel closed by the *first*
handler that returns instead of the last (no counting); handlers still running carry on under a
fresh record -/
def nstepFirstCloses (s : NSt) (x : NStep) : NSt :=
  let s' := nstep true s x
  if count s' < count s then { s' with cur := s'.nextRec, nextRec := s'.nextRec + 1 } else s'

def nrunFirstCloses : NSt → List NStep → NSt
  | s, [] => s
  | s, x :: xs => nrunFirstCloses (nstepFirstCloses s x) xs

/-- **the count is necessary**: without it a second handler of the same peer that returns while
the own handshake is still being verified releases the waiter too early, and the stream opened
after a successful Connect is refused (kernel-evaluated 10-step schedule) -/
theorem C20N_count_is_necessary :
    (nrunFirstCloses ninit [.rBegin, .oBegin, .iWriteFinal, .iReturn, .iOpenStream, .w1, .w2, .oEnd, .w3, .w4]).stream
      = .refused := by decide

/-- … while the counted record of the code keeps the waiter on the very same schedule -/
example : (nrun true ninit [.rBegin, .oBegin, .iWriteFinal, .iReturn, .iOpenStream, .w1, .w2, .oEnd, .w3, .w4]).stream
    = .waiting 0 := by decide

end LockLevel
