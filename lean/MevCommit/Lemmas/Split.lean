import MevCommit.Model.Semver
namespace MevCommit.Semver

theorem splitOn_ne_nil (sep : UInt8) (bs : Bytes) : splitOn sep bs ≠ [] := by
  fun_induction splitOn sep bs <;> simp

theorem splitOn_append (sep : UInt8) (a rest p : Bytes) (ps : List Bytes) (ha : sep ∉ a)
    (h : splitOn sep rest = p :: ps) : splitOn sep (a ++ rest) = (a ++ p) :: ps := by
  induction a with
  | nil => exact h
  | cons c a ih =>
    rw [List.mem_cons, not_or] at ha
    rw [List.cons_append, splitOn, if_neg (Ne.symm ha.1), ih ha.2]
    rfl

theorem splitOn_append_sep (sep : UInt8) (a rest : Bytes) (ha : sep ∉ a) :
    splitOn sep (a ++ sep :: rest) = a :: splitOn sep rest := by
  simpa [splitOn] using splitOn_append sep a (sep :: rest) [] (splitOn sep rest) ha

theorem splitOn_no_sep (sep : UInt8) (a : Bytes) (ha : sep ∉ a) : splitOn sep a = [a] := by
  simpa [splitOn] using splitOn_append sep a [] [] [] ha

end MevCommit.Semver
