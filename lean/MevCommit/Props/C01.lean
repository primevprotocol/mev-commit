import MevCommit.Model.Preconf
import MevCommit.Model.ProviderNode
import MevCommit.Spec.C01
import MevCommit.Props.C02
import MevCommit.Props.C11
import MevCommit.Lemmas.Outcome
open MevCommit MevCommit.Preconf MevCommit.Spec.C01

theorem C01_deadline_constant : Extracted.handleBidDeadlineNs = 5 * 1000000000 := by decide

theorem C01_acceptedInTime_decision (mine : Bool) (st : Nat) (rest : List Event) :
    acceptedInTime (.decision mine st :: rest) =
      (mine && st == statusAccepted || acceptedInTime rest) := by
  -- the cases of `acceptedInTime`, which matches the literal `.decision true 1`
  match mine, st with
  | false, _ => rfl
  | true, 0 => rfl
  | true, 1 => rfl
  | true, _ + 2 => rfl

theorem C01_acceptedInTime_decision_mono (mine : Bool) (st : Nat) {rest : List Event}
    (h : acceptedInTime rest = true) : acceptedInTime (.decision mine st :: rest) = true := by
  rw [C01_acceptedInTime_decision, h, Bool.or_true]

theorem C01_waitStatus_accept {sched : List Event} (h : waitStatus sched = .status statusAccepted) :
    acceptedInTime sched = true := by
  -- here and in the next induction the cases are the clauses of the definition in its order:
  -- [], handoff, deadline, cancel, and decision twice, with its `if` taken (`hc`) and not taken
  fun_induction waitStatus sched with
  | case1 | case3 | case4 => cases h
  | case2 rest ih => exact ih h
  | case5 mine st rest hc =>
    cases h
    simp only [Bool.and_eq_true] at hc
    obtain ⟨rfl, -⟩ := hc
    rfl
  | case6 mine st rest hc ih => exact C01_acceptedInTime_decision_mono mine st (ih h)

/-- `wait` entered with a status already in the bid's buffered channel: phase A changes the
buffer as it goes, so this is what the induction is over -/
def C01_waitFrom (buf : Option Nat) (sched : List Event) : Waited :=
  match waitHandoff buf sched with
  | .inl w => w
  | .inr (some st, _) => .status st
  | .inr (none, rest) => waitStatus rest

theorem C01_waitFrom_accept {buf : Option Nat} {sched : List Event}
    (h : C01_waitFrom buf sched = .status statusAccepted) :
    buf = some statusAccepted ∨ acceptedInTime sched = true := by
  unfold C01_waitFrom at h
  fun_induction waitHandoff buf sched with
  | case1 | case3 | case4 => cases h
  | case2 buf rest =>
    cases buf with
    | some st => cases h; exact .inl rfl
    | none => exact .inr (C01_waitStatus_accept h)
  | case5 buf mine st rest hc ih =>
    simp only [Bool.and_eq_true] at hc
    obtain ⟨⟨rfl, -⟩, -⟩ := hc
    rcases ih h with h1 | h1
    · cases h1; exact .inr rfl
    · exact .inr (C01_acceptedInTime_decision_mono true st h1)
  | case6 buf mine st rest hc ih =>
    exact (ih h).imp_right (C01_acceptedInTime_decision_mono mine st)

/-- the handler sees ACCEPTED only if the engine accepted this digest before the deadline -/
theorem C01_wait_accept (sched : List Event) (h : wait sched = .status statusAccepted) :
    acceptedInTime sched = true :=
  -- `wait sched` is `C01_waitFrom none sched` by definition
  (C01_waitFrom_accept (buf := none) h).resolve_left nofun

/-- the handler past its gates: sign, store, write, stopping at the first that fails -/
def C01_commit (signOk storeOk writeOk : Bool) : Obs :=
  if !signOk then ⟨[], .err "Internal"⟩
  else if !storeOk then ⟨[.sign, .store], .err "Internal"⟩
  else if !writeOk then ⟨[.sign, .store, .write], .err "write"⟩
  else ⟨[.sign, .store, .write], .ok⟩

/-- what `handleBid` is: nothing and no success, unless all five gates are open and the wait
ends with ACCEPTED, and then `C01_commit` -/
theorem C01_handleBid_cases (e : Env) :
    ((handleBid e).effects = [] ∧ (handleBid e).result ≠ .ok) ∨
    (e.roleIsBidder = true ∧ e.readOk = true ∧ e.verifyOk = true ∧ e.allowanceOk = true ∧
      e.formatOk = true ∧ wait e.schedule = .status statusAccepted ∧
      handleBid e = C01_commit e.signOk e.storeOk e.writeOk) := by
  unfold handleBid
  cases h1 : e.roleIsBidder
  · exact .inl ⟨rfl, nofun⟩
  cases h2 : e.readOk
  · exact .inl ⟨rfl, nofun⟩
  cases h3 : e.verifyOk
  · exact .inl ⟨rfl, nofun⟩
  cases h4 : e.allowanceOk
  · exact .inl ⟨rfl, nofun⟩
  cases h5 : e.formatOk
  · exact .inl ⟨rfl, nofun⟩
  cases hw : wait e.schedule with
  | ctxErr => exact .inl ⟨rfl, nofun⟩
  | status st =>
    by_cases hr : st = statusRejected
    · subst hr; exact .inl ⟨rfl, nofun⟩
    by_cases ha : st = statusAccepted
    · subst ha; exact .inr ⟨rfl, rfl, rfl, rfl, rfl, rfl, rfl⟩
    · exact .inl ⟨by simp [hr, ha], by simp [hr, ha]⟩

/-- **Main theorem**: for every environment and every schedule the handler's observation
satisfies the property. -/
theorem C01_handler_conforms (e : Env) : Spec.C01.ok e (handleBid e) = true := by
  rcases C01_handleBid_cases e with ⟨he, hr⟩ | ⟨h1, h2, h3, h4, h5, hw, heq⟩
  · simp [Spec.C01.ok, isPrefixOfFull, he, hr]
  · have hg : gatesOpen e = true := by
      simp [gatesOpen, h1, h2, h3, h4, h5, C01_wait_accept _ hw]
    rw [Spec.C01.ok, hg, heq]
    cases e.signOk <;> cases e.storeOk <;> cases e.writeOk <;> rfl

/-- **No effect without every gate**: any effect implies a bidder peer, a read, verified, funded,
well-formed bid and an in-time ACCEPTED decision for its digest. -/
theorem C01_effects_imply_gates (e : Env) (h : (handleBid e).effects ≠ []) :
    e.roleIsBidder = true ∧ e.readOk = true ∧ e.verifyOk = true ∧ e.allowanceOk = true ∧
    e.formatOk = true ∧ acceptedInTime e.schedule = true := by
  rcases C01_handleBid_cases e with ⟨he, _⟩ | ⟨h1, h2, h3, h4, h5, hw, _⟩
  · exact absurd he h
  · exact ⟨h1, h2, h3, h4, h5, C01_wait_accept _ hw⟩

/-- **Order**: effects are always a prefix of sign, store, write -/
theorem C01_effect_order (e : Env) : isPrefixOfFull (handleBid e).effects = true := by
  rcases C01_handleBid_cases e with ⟨he, _⟩ | ⟨-, -, -, -, -, -, heq⟩
  · rw [he]
    rfl
  · rw [heq]
    cases e.signOk <;> cases e.storeOk <;> cases e.writeOk <;> rfl

/-- **C07 ordering**: a commitment is written only after a successful settlement submission;
if the submission fails the bidder receives an error and no commitment -/
theorem C07_store_before_write (e : Env) :
    ((Effect.write ∈ (handleBid e).effects) → e.storeOk = true ∧ (handleBid e).effects = [.sign, .store, .write]) ∧
    (e.storeOk = false → Effect.write ∉ (handleBid e).effects ∧ (handleBid e).result ≠ .ok) := by
  rcases C01_handleBid_cases e with ⟨he, hr⟩ | ⟨-, -, -, -, -, -, heq⟩
  · simp [he, hr]
  · rw [heq]
    cases e.signOk <;> cases e.storeOk <;> cases e.writeOk <;> decide

/-- non-vacuity: accept after a foreign decision and an out-of-range status → full effects;
accept after the deadline → nothing -/
example : handleBid ⟨true, true, true, true, true, [.handoff, .decision false 1, .decision true 0, .decision true 1],
    true, true, true⟩ = ⟨[.sign, .store, .write], .ok⟩ ∧
  handleBid ⟨true, true, true, true, true, [.handoff, .deadline, .decision true 1], true, true, true⟩ =
    ⟨[], .err "context"⟩ := by decide

/-! ### The gates, opened: what each of them means in the component models -/
section Composed
open MevCommit.ProviderNode

/-- **C01 at full strength**: if the provider path (handler composed with the models of
`VerifyBid`, the allowance check and the format rules) produces any effect — a commitment
signature, a settlement submission or a commitment message — then the sending peer proved the
bidder role, the bid was read, its digest is the digest of exactly its fields and its signature
is a 65-byte low-S signature over that digest recovering to some key, both registry reads were
obtained and decoded with allowance ≥ minimum, the bid satisfies the published format rules, and
the engine accepted this digest before the deadline.  For every hash function and signature
scheme. -/
theorem C01_composed (H : Bytes → Bytes) (S : Signer.Scheme) (a : Arrival)
    (h : (provider H S a).effects ≠ []) :
    a.role = 2 ∧ a.readOk = true ∧
    (∃ d s pub, a.bid.digest = some d ∧ a.bid.signature = some s ∧ Signer.getBidHash H a.bid = .ok d ∧
      s.length = 65 ∧ S.recover d (Signer.normaliseV s) = some pub ∧
      S.verifyLowS pub d ((Signer.normaliseV s).take 64) = true) ∧
    (∃ mn amt, Registry.read a.minAns = some mn ∧ Registry.read a.amtAns = some amt ∧ mn ≤ amt) ∧
    ProviderSvc.validFormat a.bid.txHash a.bid.amount a.bid.blockNumber a.bid.decayStart a.bid.decayEnd
      (a.bid.digest.getD []) = true ∧
    acceptedInTime a.schedule = true := by
  obtain ⟨h1, h2, h3, h4, h5, h6⟩ := C01_effects_imply_gates (envOf H S a) h
  obtain ⟨addr, hv⟩ := Outcome.isOk_iff.mp h3
  obtain ⟨d, s, hd, hs, hh, hl, pub, hrec, hver, _⟩ := (C02_verifyBid_ok_iff H S a.bid addr).mp hv
  exact ⟨eq_of_beq h1, h2, ⟨d, s, pub, hd, hs, hh, hl, hrec, hver⟩,
    (C11_check_iff a.minAns a.amtAns).mp h4, h5, h6⟩

/-- the converse for the handler's decision: a bidder's bid that was read, verifies, is funded
and well-formed, whose wait ends with the engine's ACCEPTED status, yields exactly sign, store,
write and success when the three outputs succeed -/
theorem C01_composed_accepts (H : Bytes → Bytes) (S : Signer.Scheme) (a : Arrival)
    (g1 : a.role = 2) (g2 : a.readOk = true) (g3 : (Signer.verifyBid H S a.bid).isOk = true)
    (g4 : (Registry.check a.minAns a.amtAns).answer = true)
    (g5 : ProviderSvc.validFormat a.bid.txHash a.bid.amount a.bid.blockNumber a.bid.decayStart a.bid.decayEnd
      (a.bid.digest.getD []) = true)
    (hwait : wait a.schedule = .status statusAccepted)
    (hs : a.signOk = true) (ht : a.storeOk = true) (hw : a.writeOk = true) :
    (provider H S a).effects = [.sign, .store, .write] ∧ (provider H S a).result = .ok := by
  simp [provider, handleBid, envOf, g1, g2, g3, g4, g5, hwait, hs, ht, hw, statusAccepted, statusRejected]

/-- **Every arrival of a session passes every gate itself.**  Whatever was handled before — an
honest bid whose digest and signature this one re-uses, a refused bid, the same bid once already —
the k-th arrival has a commitment effect only if the k-th arrival itself was sent by a proven
bidder, was read, verifies (its digest is the hash of *its own* fields and the signature recovers
over it), is funded, well-formed and accepted in time. -/
theorem C01_session (H : Bytes → Bytes) (S : Signer.Scheme) (pre post : List Arrival) (a : Arrival)
    (o : Obs) (ho : (providerSession H S (pre ++ a :: post))[pre.length]? = some o)
    (h : o.effects ≠ []) :
    a.role = 2 ∧ a.readOk = true ∧
    (∃ d s pub, a.bid.digest = some d ∧ a.bid.signature = some s ∧ Signer.getBidHash H a.bid = .ok d ∧
      s.length = 65 ∧ S.recover d (Signer.normaliseV s) = some pub ∧
      S.verifyLowS pub d ((Signer.normaliseV s).take 64) = true) ∧
    (∃ mn amt, Registry.read a.minAns = some mn ∧ Registry.read a.amtAns = some amt ∧ mn ≤ amt) ∧
    ProviderSvc.validFormat a.bid.txHash a.bid.amount a.bid.blockNumber a.bid.decayStart a.bid.decayEnd
      (a.bid.digest.getD []) = true ∧
    acceptedInTime a.schedule = true := by
  obtain rfl : provider H S a = o := by simpa [providerSession] using ho
  exact C01_composed H S a h

end Composed
