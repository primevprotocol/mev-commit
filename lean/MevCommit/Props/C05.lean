import MevCommit.Model.SendBid
import MevCommit.Props.C02
import MevCommit.Lemmas.List
open MevCommit MevCommit.Signer MevCommit.SendBid

/-- **Soundness of every delivered commitment**: it verified, its reported provider address is
the recovered signer, and it embeds exactly the bid this call sent. -/
theorem C05_delivered_sound (H : Bytes → Bytes) (S : Scheme) (sent : Bid) (r : Reply) (d : Delivered)
    (h : outcome H S sent r = some d) :
    r = .commitment d.commitment ∧ verifyCommitment H S d.commitment = .ok d.providerAddress ∧
      d.commitment.bid = some sent := by
  revert h
  fun_cases outcome H S sent r
  all_goals rintro ⟨⟩
  exact ⟨rfl, ‹verifyCommitment H S _ = _›, ‹_ = some sent›⟩

/-- a verified commitment is signed by the key whose address is reported (characterisation of
C02 applied to the delivered value) -/
theorem C05_delivered_signed_by_reported_address (H : Bytes → Bytes) (S : Scheme) (sent : Bid) (r : Reply)
    (d : Delivered) (h : outcome H S sent r = some d) :
    ∃ dg sg pub, d.commitment.digest = some dg ∧ d.commitment.signature = some sg ∧
      getCommitHash H sent = .ok dg ∧ S.recover dg (normaliseV sg) = some pub ∧
      S.verifyLowS pub dg ((normaliseV sg).take 64) = true ∧ d.providerAddress = S.addrOf pub := by
  obtain ⟨_, hv, hb⟩ := C05_delivered_sound H S sent r d h
  obtain ⟨dg, sg, b, _, hd, hs, hb', _, hh, _, pub, h1, h2, h3⟩ := (C02_verifyCommitment_ok_iff ..).mp hv
  cases hb.symm.trans hb'
  exact ⟨dg, sg, pub, hd, hs, hh, h1, h2, h3⟩

/-- **At most one per provider, for every arrival order**: whatever order the goroutines reach
the channel in (any duplicate-free list of provider indices), the deliveries are exactly the
valid replies, one per provider, and nothing from providers that failed, stalled or answered
with anything else. -/
theorem C05_deliveries_any_order (H : Bytes → Bytes) (S : Scheme) (sent : Bid) (rs : List Reply)
    (order : List Nat) (hnd : order.Nodup) :
    (deliveredInOrder H S sent rs order).length ≤ order.length ∧
    ∀ d ∈ deliveredInOrder H S sent rs order, ∃ i ∈ order, ∃ r, rs[i]? = some r ∧ outcome H S sent r = some d := by
  unfold deliveredInOrder
  refine ⟨List.length_filterMap_le _ _, fun d hd => ?_⟩
  simpa only [List.mem_filterMap, Option.bind_eq_some_iff] using hd

/-- the set of deliveries does not depend on the arrival order -/
theorem C05_order_independent (H : Bytes → Bytes) (S : Scheme) (sent : Bid) (rs : List Reply)
    (o1 o2 : List Nat) (hp : o1.Perm o2) :
    (deliveredInOrder H S sent rs o1).Perm (deliveredInOrder H S sent rs o2) :=
  hp.filterMap _

/-- **Capacity argument**: the result channel is buffered for one value per provider and each
goroutine sends at most once, so no sender ever blocks and the closer runs once all returned. -/
theorem C05_no_sender_blocks (H : Bytes → Bytes) (S : Scheme) (sent : Bid) (rs : List Reply)
    (order : List Nat) (hnd : order.Nodup) (hr : ∀ i ∈ order, i < rs.length) :
    (deliveredInOrder H S sent rs order).length ≤ rs.length := by
  refine Nat.le_trans (C05_deliveries_any_order H S sent rs order hnd).1 ?_
  rw [← List.length_range (n := rs.length)]
  exact hnd.length_le_of_subset fun i hi => List.mem_range.mpr (hr i hi)

/-- **Offered to every provider connected at call time, identically**: the goroutines' targets are
exactly the providers the topology listed — each once, in that multiplicity — and every one of
them is handed the same signed bid. -/
theorem C05_offered_to_every_provider {P : Type} (providers : List P) (sent : Bid) :
    (fanOut providers sent).map (·.1) = providers ∧ ∀ x ∈ fanOut providers sent, x.2 = sent := by
  unfold fanOut
  refine ⟨?_, List.forall_mem_map.mpr fun _ _ => rfl⟩
  rw [List.map_map]
  exact List.map_id _

/-- **The result stream is complete when it ends**: once every per-provider goroutine has returned
(the arrival order is a permutation of all provider indices) the deliveries are, as a multiset,
exactly the valid replies of all providers — nothing is lost to the arrival order. -/
theorem C05_stream_complete (H : Bytes → Bytes) (S : Scheme) (sent : Bid) (rs : List Reply)
    (order : List Nat) (hp : order.Perm (List.range rs.length)) :
    (deliveredInOrder H S sent rs order).Perm (rs.filterMap (outcome H S sent)) := by
  refine (C05_order_independent H S sent rs order _ hp).trans ?_
  unfold deliveredInOrder
  have hall := List.filterMap_getElem?_range rs 0 rs.length
  simp only [Nat.zero_add, List.drop_zero, List.take_length] at hall
  rw [← List.filterMap_filterMap, hall]

/-- a commitment for a *different valid* bid (its own or a replayed one) is not surfaced -/
theorem C05_other_bid_not_surfaced (H : Bytes → Bytes) (S : Scheme) (sent other : Bid) (c : Commitment)
    (hc : c.bid = some other) (hne : other ≠ sent) : outcome H S sent (.commitment c) = none := by
  cases h : outcome H S sent (.commitment c) with
  | none => rfl
  | some d =>
    obtain ⟨hr, _, hb⟩ := C05_delivered_sound H S sent _ d h
    cases hr
    exact absurd (Option.some.inj (hc.symm.trans hb)) hne
